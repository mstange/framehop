import FH.RuleLemmas
import FH.Trunc
import FH.Dwarf
/-!
# Pointer-authentication signed stacks (C16, second sentence)

`mem'` is a *signed twin* of `mem`: the words at the addresses in `S` may carry extra bits
outside the mask (a `pacibsp`-signed return address), everything else is identical. The rule
executor loads the saved `lr` through `strip`, so as long as no *frame-pointer* slot is a signed
word, one step - and hence a whole walk - is identical on both stacks: same result, same
registers.
-/
namespace FH

/-- `mem'` is `mem` with authentication bits added to (some of) the words at addresses in `S`. -/
def SignedTwin (mask : Nat) (S : Nat → Prop) (mem mem' : Mem) : Prop :=
  ∀ a, (¬ S a → mem' a = mem a) ∧
    ((mem' a = none ∧ mem a = none) ∨
      ∃ v v', mem a = some v ∧ mem' a = some v' ∧ strip mask v' = strip mask v)

theorem finishA64_strip (first : Bool) (regs : RegsA64) (v v' newSp newFp : Nat)
    (h : strip regs.mask v' = strip regs.mask v) :
    finishA64 first regs v' newSp newFp = finishA64 first regs v newSp newFp := by
  unfold finishA64 RegsA64.setLr
  simp only [h]

theorem finishFpA64_strip (first : Bool) (regs : RegsA64) (chk : Option Bool) (v v' newSp newFp : Nat)
    (h : strip regs.mask v' = strip regs.mask v) :
    finishFpA64 first regs chk v' newSp newFp = finishFpA64 first regs chk v newSp newFp := by
  unfold finishFpA64
  rw [finishA64_strip _ _ _ _ _ _ h]

/-- Reading a slot and continuing with something that sees the value only through `strip`. -/
theorem readSlot_twin {R : Type} {mask : Nat} {S : Nat → Prop} {mem mem' : Mem}
    (ht : SignedTwin mask S mem mem') (regs : R) (a : Nat) {k k' : Nat → Out R}
    (hk : ∀ v v', strip mask v' = strip mask v → k' v' = k v) :
    readSlot mem' regs a k' = readSlot mem regs a k := by
  unfold readSlot
  rcases (ht a).2 with ⟨h1, h2⟩ | ⟨v, v', h1, h2, h3⟩
  · rw [h1, h2]
  · rw [h1, h2]; exact hk v v' h3

/-- The slot a plan loads `fp` from holds no signed word. -/
def NoSignedFp (S : Nat → Prop) : PlanA64 → Prop
  | .finFp a _ _ => ¬ S a
  | _ => True

/-- **A plan runs alike on a signed stack and on the unsigned one**: the loaded `lr` is used
only through `strip`, and the loaded `fp` is not a signed word. -/
theorem PlanA64.run_signed {first : Bool} {regs : RegsA64} {S : Nat → Prop} {mem mem' : Mem}
    (ht : SignedTwin regs.mask S mem mem') : ∀ (p : PlanA64) (lr lr' : Nat),
      strip regs.mask lr' = strip regs.mask lr → p.Ends (NoSignedFp S) →
      p.run first regs mem' lr' = p.run first regs mem lr
  | .stop _, _, _, _, _ => rfl
  | .fin _, _, _, hs, _ => finishA64_strip _ _ _ _ _ _ hs
  | .readLr a k, _, _, _, hfp => readSlot_twin ht regs a fun v v' hs => k.run_signed ht v v' hs hfp
  | .finFp a chk newSp, lr, lr', hs, hfp => by
    simp only [PlanA64.run, readSlot, (ht a).1 hfp]
    cases mem a with
    | none => rfl
    | some v => exact finishFpA64_strip _ _ _ _ _ _ _ hs

/-- A step function and a state predicate that holds along the walk on `mem`: if the step on
`mem'` agrees with the step on `mem` wherever the predicate holds, the walks are equal. -/
def HoldsAlong {St : Type} (step : Mem → St → Out St) (mem : Mem) (P : St → Prop) : Nat → St → Prop
  | 0, _ => True
  | n + 1, s => P s ∧
    match step mem s with
    | .ret (.frame _) s' => HoldsAlong step mem P n s'
    | _ => True

theorem walk_congr {St : Type} (step : Mem → St → Out St) (mem mem' : Mem) (P : St → Prop)
    (hstep : ∀ s, P s → step mem' s = step mem s) :
    ∀ n s, HoldsAlong step mem P n s → walkWith step mem' n s = walkWith step mem n s := by
  intro n
  induction n with
  | zero => intro s _; rfl
  | succ n ih =>
    intro s h
    simp only [HoldsAlong] at h
    simp only [walkWith, hstep s h.1]
    cases hs : step mem s with
    | panic site => rfl
    | ret r s1 =>
      cases r with
      | done => rfl
      | err e => rfl
      | frame ra =>
        simp only []
        have h2 := h.2
        rw [hs] at h2
        rw [ih s1 h2]

end FH

namespace FH

/-- The stack address a register rule reads, if any. -/
def regRuleSlot (get : DReg → Option Nat) (rule : RegRule) (cfa : Nat) : Option Nat :=
  match rule with
  | .offset n => caddSigned cfa n
  | .exprReg reg off => evalBreg get reg off
  | _ => none

theorem evalRegRule_eq_of_slot {mask : Nat} {S : Nat → Prop} {mem mem' : Mem}
    (ht : SignedTwin mask S mem mem') (get : DReg → Option Nat) (rule : RegRule) (cfa val : Nat)
    (h : ∀ a, regRuleSlot get rule cfa = some a → ¬ S a) :
    evalRegRule get mem' rule cfa val = evalRegRule get mem rule cfa val := by
  cases rule with
  | offset n =>
    simp only [evalRegRule]
    cases hc : caddSigned cfa n with
    | none => rfl
    | some a => exact (ht a).1 (h a (by simp [regRuleSlot, hc]))
  | exprReg reg off =>
    simp only [evalRegRule]
    cases hc : evalBreg get reg off with
    | none => rfl
    | some a => exact (ht a).1 (h a (by simp [regRuleSlot, hc]))
  | undefined => rfl
  | sameValue => rfl
  | valOffset n => rfl
  | register r => rfl
  | other => rfl
  | valExprReg reg off => rfl

/-- Evaluating a register rule on the signed stack gives the same value up to bits outside
the mask (and fails on the same inputs). -/
theorem evalRegRule_twin {mask : Nat} {S : Nat → Prop} {mem mem' : Mem}
    (ht : SignedTwin mask S mem mem') (get : DReg → Option Nat) (rule : RegRule) (cfa val : Nat) :
    (evalRegRule get mem' rule cfa val = none ∧ evalRegRule get mem rule cfa val = none) ∨
      ∃ v v', evalRegRule get mem rule cfa val = some v ∧
        evalRegRule get mem' rule cfa val = some v' ∧ strip mask v' = strip mask v := by
  have same : ∀ o : Option Nat, (o = none ∧ o = none) ∨
      ∃ v v', o = some v ∧ o = some v' ∧ strip mask v' = strip mask v := by
    intro o
    cases o with
    | none => left; exact ⟨rfl, rfl⟩
    | some v => right; exact ⟨v, v, rfl, rfl, rfl⟩
  cases rule with
  | offset n =>
    simp only [evalRegRule]
    cases caddSigned cfa n with
    | none => left; exact ⟨rfl, rfl⟩
    | some a => exact (ht a).2
  | exprReg reg off =>
    simp only [evalRegRule]
    cases evalBreg get reg off with
    | none => left; exact ⟨rfl, rfl⟩
    | some a => exact (ht a).2
  | undefined => exact same _
  | sameValue => exact same _
  | valOffset n => exact same _
  | register r => exact same _
  | other => exact same _
  | valExprReg reg off => exact same _

theorem setLr_strip (g : RegsA64) (v v' : Nat) (h : strip g.mask v' = strip g.mask v) :
    g.setLr v' = g.setLr v := by
  unfold RegsA64.setLr; rw [h]

/-- **The uncacheable DWARF path on a signed stack equals the path on the unsigned stack**,
provided the frame-pointer rule does not read a signed word. -/
theorem genericA64_signed {S : Nat → Prop} {mem mem' : Mem} (row : Row) (first : Bool)
    (regs : RegsA64) (ht : SignedTwin regs.mask S mem mem')
    (hfp : ∀ cfa a, evalCfa (getA64 regs) row.cfa = some cfa →
      regRuleSlot (getA64 regs) row.fp cfa = some a → ¬ S a) :
    genericA64 row first regs mem' = genericA64 row first regs mem := by
  unfold genericA64
  by_cases h0 : (!first) = true ∧ row.ra = .undefined
  · simp only [h0, and_self, if_true]
  · simp only [h0, if_false]
    cases hc : evalCfa (getA64 regs) row.cfa with
    | none => rfl
    | some cfa =>
      simp only []
      have hfpe := evalRegRule_eq_of_slot ht (getA64 regs) row.fp cfa regs.fp (hfp cfa · hc)
      rw [hfpe]
      have hm : ∀ (g : RegsA64), g.mask = regs.mask → ∀ v v', strip regs.mask v' = strip regs.mask v →
          g.setLr v' = g.setLr v := by
        intro g hg v v' h
        exact setLr_strip g v v' (by rw [hg]; exact h)
      cases first with
      | false =>
        simp only [Bool.not_false, if_true]
        by_cases hle : cfa ≤ regs.sp
        · simp only [hle, if_true]
        · simp only [hle, if_false]
          cases evalRegRule (getA64 regs) mem row.fp cfa regs.fp with
          | none => rfl
          | some fp' =>
            simp only []
            rcases evalRegRule_twin ht (getA64 regs) row.ra cfa regs.lr with ⟨h1, h2⟩ | ⟨v, v', h1, h2, h3⟩
            · rw [h1, h2]
            · rw [h1, h2]
              simp only []
              rw [hm { mask := regs.mask, lr := regs.lr, sp := cfa, fp := fp' } rfl v v' h3]
      | true =>
        simp only [Bool.not_true, Bool.false_eq_true, if_false]
        rcases evalRegRule_twin ht (getA64 regs) row.ra cfa regs.lr with ⟨h1, h2⟩ | ⟨v, v', h1, h2, h3⟩
        · rw [h1, h2]
        · rw [h1, h2]
          simp only [Option.getD_some]
          rw [hm { mask := regs.mask, lr := regs.lr, sp := cfa, fp := (evalRegRule (getA64 regs) mem row.fp cfa regs.fp).getD regs.fp } rfl v v' h3]

end FH
