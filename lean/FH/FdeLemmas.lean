import FH.Modules
/-!
# FDE resolution: the covering FDE is found, whatever the section order (C12)
-/
namespace FH

def Fde.stop (f : Fde) : Nat := f.start + f.len

/-- FDE ranges are non-empty and pairwise disjoint (as a set: no order is assumed). -/
def FdesDisjoint (l : List Fde) : Prop :=
  (∀ f ∈ l, 0 < f.len) ∧ l.Pairwise (fun a b => a.stop ≤ b.start ∨ b.stop ≤ a.start)

theorem insertByStart_perm (f : Fde) (l : List Fde) : (insertByStart f l).Perm (f :: l) := by
  induction l with
  | nil => exact List.Perm.refl _
  | cons g rest ih =>
    simp only [insertByStart]
    split
    · exact (List.Perm.cons g ih).trans (List.Perm.swap f g rest)
    · exact List.Perm.refl _

theorem sortByStart_perm (l : List Fde) : (sortByStart l).Perm l := by
  induction l with
  | nil => exact List.Perm.refl _
  | cons f rest ih =>
    simp only [sortByStart, List.foldr]
    exact (insertByStart_perm f _).trans (List.Perm.cons f ih)

theorem insertByStart_sorted (f : Fde) (l : List Fde)
    (h : l.Pairwise (fun a b => a.start ≤ b.start)) :
    (insertByStart f l).Pairwise (fun a b => a.start ≤ b.start) := by
  induction l with
  | nil => simp [insertByStart]
  | cons g rest ih =>
    simp only [insertByStart]
    have hg := List.pairwise_cons.mp h
    split
    · rename_i hle
      refine List.pairwise_cons.mpr ⟨?_, ih hg.2⟩
      intro x hx
      have hx' := (insertByStart_perm f rest).subset hx
      rcases List.mem_cons.mp hx' with rfl | hx''
      · exact hle
      · exact hg.1 x hx''
    · rename_i hlt
      refine List.pairwise_cons.mpr ⟨?_, h⟩
      intro x hx
      rcases List.mem_cons.mp hx with rfl | hx
      · omega
      · have := hg.1 x hx; omega

theorem sortByStart_sorted (l : List Fde) :
    (sortByStart l).Pairwise (fun a b => a.start ≤ b.start) := by
  induction l with
  | nil => simp [sortByStart]
  | cons f rest ih =>
    simp only [sortByStart, List.foldr]
    exact insertByStart_sorted f _ ih

theorem lastLE_mem {key : Nat} {l : List Fde} {g : Fde} (h : lastLE key l = some g) : g ∈ l := by
  induction l generalizing g with
  | nil => cases h
  | cons y ys ih =>
    simp only [lastLE] at h
    split at h
    · split at h
      · cases h; exact List.mem_cons_of_mem _ (ih ‹_›)
      · cases h; exact List.mem_cons_self
    · cases h; exact List.mem_cons_self

theorem lastLE_eq_none {key : Nat} {l : List Fde} (h : lastLE key l = none) : l = [] := by
  cases l with
  | nil => rfl
  | cons y ys => simp only [lastLE] at h; split at h <;> (try split at h) <;> cases h

/-- A symmetric relation that holds pairwise holds between any two distinct members. -/
theorem pairwise_symm_mem {α} {R : α → α → Prop} (hR : ∀ a b, R a b → R b a) {l : List α}
    (h : l.Pairwise R) {a b : α} (ha : a ∈ l) (hb : b ∈ l) (hne : a ≠ b) : R a b := by
  induction h with
  | nil => cases ha
  | cons hx _ ih =>
    rcases List.mem_cons.mp ha with rfl | ha' <;> rcases List.mem_cons.mp hb with rfl | hb'
    · exact (hne rfl).elim
    · exact hx _ hb'
    · exact hR _ _ (hx _ ha')
    · exact ih ha' hb'

/-- On a table sorted by start, `lastLE` returns the last entry starting at or before the key
(if there is one). -/
theorem lastLE_spec (key : Nat) (l : List Fde) (h : l.Pairwise (fun a b => a.start ≤ b.start))
    (f : Fde) (hf : f ∈ l) (hle : f.start ≤ key) :
    ∃ g, lastLE key l = some g ∧ g ∈ l ∧ g.start ≤ key ∧ f.start ≤ g.start := by
  induction l with
  | nil => simp at hf
  | cons x rest ih =>
    have hx := List.pairwise_cons.mp h
    simp only [lastLE]
    rcases List.mem_cons.mp hf with rfl | hfr
    · -- `f` is the head
      cases hr : lastLE key rest with
      | none => exact ⟨f, rfl, by simp, hle, Nat.le_refl _⟩
      | some g =>
        simp only []
        have hgm : g ∈ rest := lastLE_mem hr
        split
        · rename_i hgle
          exact ⟨g, rfl, List.mem_cons_of_mem _ hgm, hgle, hx.1 g hgm⟩
        · exact ⟨f, rfl, by simp, hle, Nat.le_refl _⟩
    · obtain ⟨g, hg, hgm, hgle, hfg⟩ := ih hx.2 hfr
      rw [hg]
      simp only [hgle, if_true]
      exact ⟨g, rfl, List.mem_cons_of_mem _ hgm, hgle, hfg⟩

/-- **The FDE consulted is the one covering the address, irrespective of the order of FDEs in
the section**: for pairwise disjoint FDEs in any order, the table lookup on the sorted table
returns the FDE whose range contains the address. -/
theorem lookup_finds_covering_fde (fdes : List Fde) (h : FdesDisjoint fdes) (f : Fde) (hf : f ∈ fdes)
    (a : Nat) (hc : f.start ≤ a ∧ a < f.stop) : lastLE a (sortByStart fdes) = some f := by
  have hp := sortByStart_perm fdes
  obtain ⟨g, hg, hgm, hgle, hfg⟩ :=
    lastLE_spec a _ (sortByStart_sorted fdes) f (hp.symm.subset hf) hc.1
  rw [hg]
  congr 1
  -- `g` starts inside `f`'s range, and the two are equal or disjoint
  by_cases e : g = f
  · exact e
  · have hd := pairwise_symm_mem (fun _ _ => Or.symm) h.2 (hp.subset hgm) hf e
    have hglen := h.1 g (hp.subset hgm)
    unfold Fde.stop at *
    omega

/-- An address no FDE covers never gets a row: whatever FDE the table lookup lands on, its
range check fails (`uncovered`), in every presentation. -/
theorem uncovered_address_has_no_row (fdes : List Fde) (a : Nat)
    (hn : ∀ f ∈ fdes, ¬(f.start ≤ a ∧ a < f.stop)) (g : Fde) (hg : lastLE a (sortByStart fdes) = some g) :
    g.rowFor a = none := by
  have hgm : g ∈ fdes := (sortByStart_perm fdes).subset (lastLE_mem hg)
  have hno := hn g hgm
  unfold Fde.stop at hno
  unfold Fde.rowFor
  by_cases he : g.evalFails = true
  · simp [he]
  · simp [he, hno]

end FH
