import FH.ReadSlot
/-!
# The read plan of an x86-64 rule step

As in `FH/PlanA64.lean`: the addresses a step reads do not depend on the values read, so a step
is a plan computed from the rule and the registers, run against the memory. The pop loop stays
one node (`popLoop` has lemmas of its own); the saved `rbp` of `OffsetSpAndRestoreBp` may be
loaded *tolerantly* (an unreadable slot below `sp` in the first frame keeps the old value).
-/
namespace FH

/-- Field ranges under which rule execution is panic free (weaker than `RuleX64.WF`: the
register encoding of the pop rule is decoded by total functions). -/
def RuleX64.Safe : RuleX64 → Prop
  | .offsetSp k => k < U16
  | .offsetSpAndRestoreBp k b => k < U16 ∧ -32768 ≤ b ∧ b < 32768
  | .offsetSpAndPopRegisters k _ _ => k < U16
  | _ => True

/-- Whether a rule follows the frame pointer in this kind of frame. -/
def usesBpX64 : RuleX64 → Bool → Bool
  | .useFramePointer, _ => true
  | .justReturnIfFirstFrameOtherwiseFp, false => true
  | _, _ => false

/-- Outcomes of `execX64` that are decided without reading memory. -/
inductive StopX64 where
  | done | overflow | fpMovedBackwards | panic (s : Site)

def StopX64.out (regs : RegsX64) : StopX64 → Out RegsX64
  | .done => .ret .done regs
  | .overflow => .ret (.err .integerOverflow) regs
  | .fpMovedBackwards => .ret (.err .fpMovedBackwards) regs
  | .panic s => .panic s

inductive PlanX64 where
  | stop (k : StopX64)
  /-- load the new `rbp` from `a` -/
  | loadBp (a : Nat) (k : PlanX64)
  /-- pop the registers `l` from `a` upwards; the new `rbp` is the popped one -/
  | pops (l : List Nat) (a : Nat) (k : PlanX64)
  /-- read the return address below `newSp` and finish -/
  | fin (newSp : Nat)
  /-- load the new `rbp` from `a`, keeping the old one if `a` is unreadable, and finish -/
  | finTol (a : Nat) (newSp : Nat)

/-- Run a plan; `r` are the registers as popped so far, `bp` the new `rbp` so far. -/
def PlanX64.run (regs : RegsX64) (mem : Mem) : PlanX64 → (Nat → Nat) → Nat → Out RegsX64
  | .stop k, r, _ => k.out { regs with r := r }
  | .loadBp a k, r, _ => readSlot mem { regs with r := r } a fun newBp => k.run regs mem r newBp
  | .pops l a k, r, _ =>
    match popLoop mem l a r with
    | .fail e r' => .ret (.err e) { regs with r := r' }
    | .ok _ r' => k.run regs mem r' (r' RBP)
  | .fin newSp, r, bp => finishX64 { regs with r := r } regs.sp newSp bp mem
  | .finTol a newSp, r, bp => finishX64 { regs with r := r } regs.sp newSp ((mem a).getD bp) mem

/-- The plan of `fpStepX64`. -/
def fpPlanX64 (regs : RegsX64) : PlanX64 :=
  if regs.bp = 0 then .stop .done
  else orElse (cadd regs.bp 16) (.stop .overflow) fun newSp =>
    if newSp ≤ regs.sp then .stop .fpMovedBackwards else .loadBp regs.bp (.fin newSp)

/-- The plan of `execX64`: its address arithmetic, statement by statement, without the reads. -/
def planX64 (rule : RuleX64) (first : Bool) (regs : RegsX64) : PlanX64 :=
  let sp := regs.sp
  let ovf := PlanX64.stop .overflow
  let pU := PlanX64.stop (.panic (.other 1))
  let pI := PlanX64.stop (.panic (.other 2))
  match rule with
  | .endOfStack => .stop .done
  | .justReturn => orElse (cadd sp 8) ovf .fin
  | .justReturnIfFirstFrameOtherwiseFp =>
    if first then orElse (cadd sp 8) ovf .fin else fpPlanX64 regs
  | .offsetSp k => mulU pU k 8 fun off => orElse (cadd sp off) ovf .fin
  | .offsetSpAndRestoreBp k b =>
    mulU pU k 8 fun off => orElse (cadd sp off) ovf fun newSp =>
    mulI pI b 8 fun bpOff => orElse (caddSigned sp bpOff) ovf fun loc =>
    if first ∧ loc < sp then .finTol loc newSp else .loadBp loc (.fin newSp)
  | .useFramePointer => fpPlanX64 regs
  | .offsetSpAndPopRegisters k count enc =>
    mulU pU k 8 fun off => orElse (cadd sp off) ovf fun sp1 =>
    .pops (decodeRegs count enc) sp1 <|
    orElse (cadd (sp1 + 8 * (decodeRegs count enc).length) 8) ovf .fin

variable {regs : RegsX64} {mem : Mem}

theorem popLoop_ok {mem : Mem} : ∀ (l : List Nat) (sp : Nat) (r : Nat → Nat) (sp2 : Nat)
    (r2 : Nat → Nat), popLoop mem l sp r = .ok sp2 r2 → sp2 = sp + 8 * l.length ∧
      (l ≠ [] → sp2 < U64)
  | [], sp, r, sp2, r2, h => by
    simp [popLoop] at h; simp [h.1]
  | reg :: rest, sp, r, sp2, r2, h => by
    simp only [popLoop] at h
    split at h
    · cases h
    · split at h
      · cases h
      · rename_i sp' hsp'
        have ⟨e1, e2⟩ := cadd_some hsp'
        have ih := popLoop_ok rest sp' _ sp2 r2 h
        refine ⟨by simp [List.length]; omega, fun _ => ?_⟩
        cases rest with
        | nil => simp [List.length] at ih; omega
        | cons a t => exact ih.2 (by simp)

theorem fpStepX64_eq_run (regs : RegsX64) (mem : Mem) :
    fpStepX64 regs mem = (fpPlanX64 regs).run regs mem regs.r regs.bp := by
  simp only [fpStepX64, fpPlanX64, apply_ite (PlanX64.run regs mem), ite_app,
    apply_orElse (PlanX64.run regs mem), orElse_apply, PlanX64.run, StopX64.out, readSlot]
  -- as in `execA64_eq_run`: the sides differ in the auxiliary matcher and by eta for `regs`
  delta popLoop.match_1 readSlot.match_1 orElse; rfl

/-- **`execX64` runs its plan.** -/
theorem execX64_eq_run (rule : RuleX64) (first : Bool) (regs : RegsX64) (mem : Mem) :
    execX64 rule first regs mem = (planX64 rule first regs).run regs mem regs.r regs.bp := by
  cases rule with
  | endOfStack => rfl
  | useFramePointer => exact fpStepX64_eq_run regs mem
  | offsetSpAndRestoreBp k b =>
    simp only [execX64, planX64, umul, imul, mulU, mulI]
    split
    · cases cadd regs.sp (k * 8) with
      | none => rfl
      | some newSp =>
        simp only [orElse]
        split
        · cases caddSigned regs.sp (b * 8) with
          | none => rfl
          | some loc =>
            -- the tolerant load is a `getD` in the plan and a `match` in the model
            cases hm : mem loc <;> by_cases h : first = true ∧ loc < regs.sp <;>
              simp [PlanX64.run, readSlot, hm, h]
        · rfl
    · rfl
  | offsetSpAndPopRegisters k c e =>
    simp only [execX64, planX64, umul, mulU]
    split
    · cases cadd regs.sp (k * 8) with
      | none => rfl
      | some sp1 =>
        simp only [orElse, PlanX64.run]
        cases hp : popLoop mem (decodeRegs c e) sp1 regs.r with
        | fail e r => rfl
        | ok sp2 r =>
          -- the plan has computed where the pop loop ends
          simp only [(popLoop_ok _ _ _ _ _ hp).1]
          cases cadd (sp1 + 8 * (decodeRegs c e).length) 8 <;> rfl
    · rfl
  | _ =>
    simp only [execX64, planX64, umul, mulU, apply_ite (PlanX64.run regs mem), ite_app,
      apply_orElse (PlanX64.run regs mem), orElse_apply, PlanX64.run, StopX64.out,
      ← fpStepX64_eq_run]
    delta popLoop.match_1 readSlot.match_1 orElse; rfl

/-! ## What the plan of a rule is made of -/

theorem mem_swapAt {l : List Nat} {i j x : Nat} (h : x ∈ swapAt l i j) : x ∈ l := by
  unfold swapAt at h
  split at h
  · rename_i hij
    rcases List.mem_or_eq_of_mem_set h with h1 | h1
    · rcases List.mem_or_eq_of_mem_set h1 with h2 | h2
      · exact h2
      · rw [h2]; exact List.getElem_mem _
    · rw [h1]; exact List.getElem_mem _
  · exact h

theorem mem_decodeLoop : ∀ (n r : Nat) (regs : List Nat) (x : Nat), x ∈ decodeLoop n r regs → x ∈ regs
  | 0, _, _, _, h => h
  | n + 1, r, regs, x, h => by
    simp only [decodeLoop] at h
    split at h
    · exact h
    · split at h
      · exact h
      · have := mem_decodeLoop n _ _ x h
        split at this
        · exact mem_swapAt this
        · exact this

theorem decodeRegs_ne_rsp (count enc : Nat) : ∀ reg ∈ decodeRegs count enc, reg ≠ RSP := by
  intro reg h
  have h1 : reg ∈ decodeLoop 8 enc encodeRegisters := List.mem_of_mem_take h
  have h2 := mem_decodeLoop 8 enc encodeRegisters reg h1
  simp only [encodeRegisters, List.mem_cons, List.not_mem_nil, or_false] at h2
  unfold RSP
  omega

theorem decodeRegs_length_le (count enc : Nat) : (decodeRegs count enc).length ≤ count := by
  unfold decodeRegs
  simp only [List.length_take]
  omega


/-- `P` holds of every node of a plan. -/
def PlanX64.All (P : PlanX64 → Prop) : PlanX64 → Prop
  | .loadBp a k => P (.loadBp a k) ∧ k.All P
  | .finTol a n => P (.finTol a n) ∧ P (.fin n)
  | .pops l a k => P (.pops l a k) ∧ k.All P
  | p => P p

theorem PlanX64.All.imp {P Q : PlanX64 → Prop} (h : ∀ q, P q → Q q) :
    ∀ {p : PlanX64}, p.All P → p.All Q
  | .loadBp _ k, hp => ⟨h _ hp.1, All.imp h (p := k) hp.2⟩
  | .pops _ _ k, hp => ⟨h _ hp.1, All.imp h (p := k) hp.2⟩
  | .finTol _ _, hp => ⟨h _ hp.1, h _ hp.2⟩
  | .stop _, hp => h _ hp
  | .fin _, hp => h _ hp

/-- What the nodes of the plan of `rule` may be. -/
def NodeOK (rule : RuleX64) (first : Bool) (regs : RegsX64) : PlanX64 → Prop
  | .stop .done => rule = .endOfStack ∨ (usesBpX64 rule first = true ∧ regs.bp = 0)
  | .stop (.panic _) => ¬ rule.Safe
  | .fin n => regs.sp ≤ n ∧ n < U64 ∧ (usesBpX64 rule first = true → regs.sp < n)
  -- the tolerated slot lies below the return address slot (this is what makes the tolerated
  -- failure harmless when the stack is truncated)
  | .finTol a n => rule.WF → a + 8 ≤ n
  | .pops l a _ =>
    (∀ reg ∈ l, reg ≠ RSP) ∧ (rule.WF → a + 8 * l.length < regs.sp + 526336)
  | _ => True

theorem fpPlanX64_all {rule : RuleX64} {first : Bool} (regs : RegsX64)
    (hu : usesBpX64 rule first = true) : (fpPlanX64 regs).All (NodeOK rule first regs) := by
  unfold fpPlanX64
  split
  · exact .inr ⟨hu, by assumption⟩
  · refine orElse_of trivial fun n hn => ?_
    have := cadd_some hn
    split
    · trivial
    · exact ⟨trivial, by omega, by omega, fun _ => by omega⟩

/-- **The table of the rules**: where a plan can end the walk or panic, that `sp` is not
lowered and stays a `u64`, and where a tolerated slot lies. -/
theorem planX64_all (rule : RuleX64) (first : Bool) (regs : RegsX64) :
    (planX64 rule first regs).All (NodeOK rule first regs) := by
  have u16 : ∀ {k : Nat}, ¬ k * 8 < U64 → ¬ k < U16 := by
    intro k hn; unfold U16; unfold U64 at hn; omega
  have fin : ∀ {off n : Nat} (hu : usesBpX64 rule first = false), cadd regs.sp off = some n →
      NodeOK rule first regs (.fin n) := by
    intro off n hu hn
    have := cadd_some hn
    exact ⟨by omega, by omega, fun h => by rw [hu] at h; cases h⟩
  cases rule with
  | endOfStack => exact .inl rfl
  | useFramePointer => exact fpPlanX64_all regs rfl
  | justReturn => exact orElse_of trivial fun n hn => fin rfl hn
  | justReturnIfFirstFrameOtherwiseFp =>
    cases first with
    | true => exact orElse_of trivial fun n hn => fin rfl hn
    | false => exact fpPlanX64_all regs rfl
  | offsetSp k =>
    simp only [planX64]
    exact mulU_of (fun h w => u16 h w) (orElse_of trivial fun n hn => fin rfl hn)
  | offsetSpAndRestoreBp k b =>
    simp only [planX64]
    refine mulU_of (fun h w => u16 h w.1) (orElse_of trivial fun n hn => ?_)
    refine mulI_of (fun h w => h (by have := w.2; omega)) (orElse_of trivial fun a ha => ?_)
    split
    case isFalse => exact ⟨trivial, fin rfl hn⟩
    rename_i hlt
    refine ⟨fun w => ?_, fin rfl hn⟩
    -- `a = sp + 8 b` with `b < 0`, and `n = sp + 8 k`
    have hn' := cadd_some hn
    have := caddSigned_some (a := regs.sp) (b := b * 8) (by omega) (by have := w.2; omega)
      (by have := w.2; omega) ha
    omega
  | offsetSpAndPopRegisters k c e =>
    simp only [planX64]
    refine mulU_of (fun h w => u16 h w) (orElse_of trivial fun sp1 h1 => ⟨?_, ?_⟩)
    · refine ⟨decodeRegs_ne_rsp c e, fun w => ?_⟩
      have := cadd_some h1
      have := decodeRegs_length_le c e
      have := w.1
      have := w.2.1
      unfold U16 at *
      omega
    · refine orElse_of trivial fun n hn => ?_
      have := cadd_some h1
      have := cadd_some hn
      exact ⟨by omega, by omega, fun h => by cases h⟩

/-! ## Every outcome of a step -/

/-- How the pop loop can fail. -/
theorem popLoop_fail {mem : Mem} : ∀ (l : List Nat) (sp : Nat) (r r2 : Nat → Nat) (e : Err),
    popLoop mem l sp r = .fail e r2 →
      e = .integerOverflow ∨ ∃ a, e = .couldNotReadStack a ∧ mem a = none
  | [], sp, r, r2, e, h => by cases h
  | reg :: rest, sp, r, r2, e, h => by
    simp only [popLoop] at h
    split at h
    · cases h; exact .inr ⟨sp, rfl, by assumption⟩
    · split at h
      · cases h; exact .inl rfl
      · exact popLoop_fail rest _ _ _ _ h

/-- What `finishX64` can return. -/
theorem finishX64_cases (regs1 : RegsX64) (sp newSp newBp : Nat) (mem : Mem) :
    (∃ e, (e = .integerOverflow ∨ e = .didNotAdvance ∨
        e = .couldNotReadStack (newSp - 8) ∧ mem (newSp - 8) = none) ∧
      finishX64 regs1 sp newSp newBp mem = .ret (.err e) regs1) ∨
    (mem (newSp - 8) = some 0 ∧ finishX64 regs1 sp newSp newBp mem = .ret .done regs1) ∨
    (∃ ra, 8 ≤ newSp ∧ mem (newSp - 8) = some ra ∧ ra ≠ 0 ∧ ¬(newSp = sp ∧ ra = regs1.ip) ∧
      finishX64 regs1 sp newSp newBp mem =
        .ret (.frame ra) { ip := ra, r := setReg (setReg regs1.r RSP newSp) RBP newBp }) := by
  unfold finishX64
  split
  · exact .inl ⟨_, .inl rfl, rfl⟩
  · split
    · exact .inl ⟨_, .inr (.inr ⟨rfl, by assumption⟩), rfl⟩
    · rename_i ra hra
      split
      · rename_i h0
        exact .inr (.inl ⟨h0 ▸ hra, rfl⟩)
      · split
        · exact .inl ⟨_, .inr (.inl rfl), rfl⟩
        · exact .inr (.inr ⟨ra, by omega, hra, by assumption, by assumption, rfl⟩)

/-- The outcomes of a step: it stops early; or fails on an overflow, for want of progress, or
names a slot it could not read; or ends the walk at a null return address; or yields a frame,
whose return address lies below the new `sp`. `P` is whatever is known of the nodes of the
plan. The registers returned are the old ones except for popped values. -/
abbrev OutcomeX64 (P : PlanX64 → Prop) (regs : RegsX64) (mem : Mem) (o : Out RegsX64) : Prop :=
  (∃ k r', P (.stop k) ∧ o = k.out { regs with r := r' }) ∨
  (∃ e r', (e = .integerOverflow ∨ e = .didNotAdvance ∨
      ∃ a, e = .couldNotReadStack a ∧ mem a = none) ∧
    o = .ret (.err e) { regs with r := r' }) ∨
  (∃ a r', mem a = some 0 ∧ o = .ret .done { regs with r := r' }) ∨
  ∃ newSp r' bp' ra, P (.fin newSp) ∧ 8 ≤ newSp ∧ mem (newSp - 8) = some ra ∧ ra ≠ 0 ∧
    ¬(newSp = regs.sp ∧ ra = regs.ip) ∧
    o = .ret (.frame ra) { ip := ra, r := setReg (setReg r' RSP newSp) RBP bp' }

theorem finishX64_out {P : PlanX64 → Prop} {newSp : Nat} (hp : P (.fin newSp)) (r : Nat → Nat)
    (bp : Nat) : OutcomeX64 P regs mem (finishX64 { regs with r := r } regs.sp newSp bp mem) := by
  rcases finishX64_cases { regs with r := r } regs.sp newSp bp mem with
    ⟨e, he, h⟩ | ⟨h0, h⟩ | ⟨ra, h1, h2, h3, h4, h⟩
  · refine .inr (.inl ⟨e, r, ?_, h⟩)
    rcases he with he | he | ⟨he, hm⟩
    · exact .inl he
    · exact .inr (.inl he)
    · exact .inr (.inr ⟨_, he, hm⟩)
  · exact .inr (.inr (.inl ⟨_, r, h0, h⟩))
  · exact .inr (.inr (.inr ⟨newSp, r, bp, ra, hp, h1, h2, h3, h4, h⟩))

theorem PlanX64.run_out {P : PlanX64 → Prop} : ∀ (p : PlanX64) (r : Nat → Nat) (bp : Nat),
    p.All P → OutcomeX64 P regs mem (p.run regs mem r bp)
  | .stop k, r, _, hp => .inl ⟨k, r, hp, rfl⟩
  | .fin _, r, bp, hp => finishX64_out hp r bp
  | .finTol a _, r, bp, hp => finishX64_out hp.2 r _
  | .loadBp a k, r, bp, hp => by
    simp only [PlanX64.run]
    rcases readSlot_cases mem { regs with r := r } a fun v => k.run regs mem r v with
      ⟨hn, e⟩ | ⟨v, _, e⟩ <;> rw [e]
    · exact .inr (.inl ⟨_, r, .inr (.inr ⟨a, rfl, hn⟩), rfl⟩)
    · exact k.run_out r v hp.2
  | .pops l a k, r, _, hp => by
    simp only [PlanX64.run]
    cases h : popLoop mem l a r with
    | fail e r' =>
      refine .inr (.inl ⟨e, r', ?_, rfl⟩)
      rcases popLoop_fail l a r r' e h with he | he
      · exact .inl he
      · exact .inr (.inr he)
    | ok sp2 r' => exact k.run_out r' _ hp.2

/-- **The outcomes of `execX64`**, with what `NodeOK` says of the rule in each case. -/
theorem execX64_out (rule : RuleX64) (first : Bool) (regs : RegsX64) (mem : Mem) :
    OutcomeX64 (NodeOK rule first regs) regs mem (execX64 rule first regs mem) := by
  rw [execX64_eq_run]
  exact PlanX64.run_out _ _ _ (planX64_all rule first regs)

end FH
