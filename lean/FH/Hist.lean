import FH.MissPath
/-!
# Histories of operations over unwinders sharing one cache (C06, C18, C20)

`HWorld` is the state of a process: the global generation counter, the live unwinders,
one shared cache. `ghost` is proof-only: the module list each drawn generation stands for.
-/
namespace FH

/-- The rule a cache miss would insert for lookup address `la` under module list `L`
(`none` when the uncacheable path is taken and nothing is inserted). -/
def staticRule (A : Arch) (L : List Module) (la : Nat) (first : Bool) : Option A.Rule :=
  match findModule L la with
  | none => some A.fallback
  | some (i, rel) =>
    match L[i]? with
    | none => some A.fallback
    | some m =>
      match plan A m rel first with
      | .exec r => some r
      | .staticErr => some A.fallback
      | .generic _ => none
      | .pe _ => none
      | .panic => none

theorem staticRule_eq (A : Arch) (L : List Module) (la : Nat) (first : Bool) :
    staticRule A L la first = (planAt A L la first).cached A.fallback := by
  unfold staticRule planAt
  cases findModule L la with
  | none => rfl
  | some p =>
    dsimp only
    cases L[p.1]? with
    | none => rfl
    | some m => dsimp only; cases plan A m p.2 first <;> rfl

/-- The miss path inserts exactly `staticRule`, and when it inserts a rule its outcome is the
execution of that rule: what is cached never depends on registers or memory. -/
theorem missPath_static (A : Arch) (u : Unw) (addr : FrameAddr) (regs : A.Regs) (mem : Mem) :
    (missPath A u addr regs mem).1 = staticRule A u.mods addr.lookup (!addr.isReturn) ∧
    ∀ r, (missPath A u addr regs mem).1 = some r →
      (missPath A u addr regs mem).2 = A.exec r (!addr.isReturn) regs mem := by
  rw [missPath_eq, staticRule_eq]
  exact ⟨runPlan_fst .., fun r => runPlan_snd_of_cached⟩

/-- Outcome of `unwindFrame` on a fresh cache: the miss path. -/
theorem unwindFrame_empty (A : Arch) (N : Nat) (u : Unw) (addr : FrameAddr) (regs : A.Regs)
    (mem : Mem) :
    (unwindFrame A N u Cache.empty addr regs mem).2 = (missPath A u addr regs mem).2 := by
  rw [unwindFrame_miss rfl]

/-- Entries of the cache are justified by the ghost map: the entry's rule is what a miss
for its address under the module list of its generation would insert. `kind` fixes, per
lookup address, whether it is used as instruction pointer (`true` = first frame) or as
return address. -/
def EntriesOK (A : Arch) (kind : Nat → Bool) (ghost : Nat → Option (List Module))
    (c : Cache A.Rule) : Prop :=
  ∀ s e, c.slots s = some e →
    ∃ L, ghost e.gen = some L ∧ staticRule A L e.addr (kind e.addr) = some e.rule

/-- **Core of C06.** If the cache's entries are justified and the unwinder's own
generation stands for its module list, the outcome of a call does not depend on the cache. -/
theorem unwindFrame_cache_independent (A : Arch) (N : Nat) (kind : Nat → Bool)
    (ghost : Nat → Option (List Module)) (u : Unw) (c : Cache A.Rule) (addr : FrameAddr)
    (regs : A.Regs) (mem : Mem) (hc : EntriesOK A kind ghost c) (hu : ghost u.gen = some u.mods)
    (hk : kind addr.lookup = !addr.isReturn) :
    (unwindFrame A N u c addr regs mem).2 = (unwindFrame A N u Cache.empty addr regs mem).2 := by
  rw [unwindFrame_empty]
  cases hl : (c.lookup N addr.lookup u.gen).2 with
  | miss => rw [unwindFrame_miss hl]
  | hit rule =>
    -- the entry that was hit is justified by the ghost map: it is what the miss path inserts
    obtain ⟨L, hL, hs⟩ := hc _ _ (lookup_hit_iff.mp hl)
    rw [hu] at hL
    cases hL
    rw [hk, ← (missPath_static A u addr regs mem).1] at hs
    rw [unwindFrame_hit hl, (missPath_static A u addr regs mem).2 _ hs]

/-- The cache after a call is still justified. -/
theorem unwindFrame_entriesOK (A : Arch) (N : Nat) (kind : Nat → Bool)
    (ghost : Nat → Option (List Module)) (u : Unw) (c : Cache A.Rule) (addr : FrameAddr)
    (regs : A.Regs) (mem : Mem) (hc : EntriesOK A kind ghost c) (hu : ghost u.gen = some u.mods)
    (hk : kind addr.lookup = !addr.isReturn) :
    EntriesOK A kind ghost (unwindFrame A N u c addr regs mem).1 :=
  unwindFrame_all (Q := fun e => ∃ L, ghost e.gen = some L ∧
      staticRule A L e.addr (kind e.addr) = some e.rule) hc fun r hr =>
    ⟨u.mods, hu, by rw [hk, ← (missPath_static A u addr regs mem).1]; exact hr⟩

/-! ## Whole histories -/

structure HWorld (A : Arch) where
  c0 : Nat                 -- counter value at process start (ghost)
  draws : Nat              -- number of generation draws so far (ghost)
  counter : Nat
  unws : List Unw
  cache : Cache A.Rule
  ghost : Nat → Option (List Module)

inductive HOp (A : Arch) where
  | new
  | clone (i : Nat)
  | add (i : Nat) (m : Module)
  | remove (i : Nat) (start : Nat)
  | unwind (i : Nat) (addr : FrameAddr) (regs : A.Regs) (mem : Mem)

def setGhost (ghost : Nat → Option (List Module)) (g : Nat) (L : List Module) :
    Nat → Option (List Module) := fun x => if x = g then some L else ghost x

/-- One operation. The optional output is the outcome of an `unwind`. -/
def hstep (A : Arch) (N : Nat) (w : HWorld A) : HOp A → HWorld A × Option (Out A.Regs)
  | .new =>
    let (g, c') := drawGen w.counter
    ({ w with counter := c', draws := w.draws + 1, unws := w.unws ++ [{ mods := [], gen := g }],
              ghost := setGhost w.ghost g [] }, none)
  | .clone i =>
    match w.unws[i]? with
    | some u => ({ w with unws := w.unws ++ [u] }, none)
    | none => (w, none)
  | .add i m =>
    match w.unws[i]? with
    | some u =>
      let (g, c') := drawGen w.counter
      let L := addModule u.mods m
      ({ w with counter := c', draws := w.draws + 1, unws := w.unws.set i { mods := L, gen := g },
                ghost := setGhost w.ghost g L }, none)
    | none => (w, none)
  | .remove i start =>
    match w.unws[i]? with
    | some u =>
      match removeModule u.mods start with
      | some L =>
        let (g, c') := drawGen w.counter
        ({ w with counter := c', draws := w.draws + 1, unws := w.unws.set i { mods := L, gen := g },
                  ghost := setGhost w.ghost g L }, none)
      | none => (w, none)
    | none => (w, none)
  | .unwind i addr regs mem =>
    match w.unws[i]? with
    | some u =>
      let (c', out) := unwindFrame A N u w.cache addr regs mem
      ({ w with cache := c' }, some out)
    | none => (w, none)

/-- The history invariant. -/
structure HInv (A : Arch) (kind : Nat → Bool) (w : HWorld A) : Prop where
  counter_eq : w.counter = (w.c0 + w.draws) % U16
  unws_ok : ∀ u, u ∈ w.unws → w.ghost u.gen = some u.mods
  entries_ok : EntriesOK A kind w.ghost w.cache
  ghost_drawn : ∀ g, w.ghost g ≠ none → ∃ k, k < w.draws ∧ g = (w.c0 + k) % U16

/-- An operation respects the consistent use of addresses. -/
def HOp.Consistent {A : Arch} (kind : Nat → Bool) : HOp A → Prop
  | .unwind _ addr _ _ => kind addr.lookup = !addr.isReturn
  | _ => True

theorem fresh_gen_unused {A : Arch} {kind : Nat → Bool} {w : HWorld A} (h : HInv A kind w)
    (hd : w.draws < U16) : w.ghost w.counter = none := by
  by_cases hn : w.ghost w.counter = none
  · exact hn
  · obtain ⟨k, hk, he⟩ := h.ghost_drawn _ hn
    rw [h.counter_eq] at he
    unfold U16 at *
    omega

/-- Drawing a fresh generation for a new module list keeps the invariant, whatever happens to
the list of unwinders as long as each of them is either an old one or carries the new pair. -/
theorem hinv_draw {A : Arch} {kind : Nat → Bool} {w : HWorld A} (h : HInv A kind w)
    (hd : w.draws < U16) (L : List Module) (unws' : List Unw)
    (hu : ∀ u, u ∈ unws' → u ∈ w.unws ∨ (u.gen = w.counter ∧ u.mods = L)) :
    HInv A kind { w with counter := (w.counter + 1) % U16, draws := w.draws + 1, unws := unws',
                         ghost := setGhost w.ghost w.counter L } := by
  have fresh := fresh_gen_unused h hd
  refine ⟨?_, ?_, ?_, ?_⟩
  · simp only []
    rw [h.counter_eq]
    unfold U16
    omega
  · intro u hu'
    simp only [setGhost]
    rcases hu u hu' with hold | ⟨hg, hm⟩
    · have := h.unws_ok u hold
      split
      · rename_i e; rw [e, fresh] at this; cases this
      · exact this
    · simp [hg, hm]
  · intro s e he
    obtain ⟨L', hL', hs⟩ := h.entries_ok s e he
    refine ⟨L', ?_, hs⟩
    simp only [setGhost]
    split
    · rename_i e'; rw [e', fresh] at hL'; cases hL'
    · exact hL'
  · intro g hg
    simp only [setGhost] at hg
    split at hg
    · rename_i e
      exact ⟨w.draws, by simp, by rw [e, h.counter_eq]⟩
    · obtain ⟨k, hk, he⟩ := h.ghost_drawn g hg
      exact ⟨k, by simp only []; omega, he⟩

/-- Every operation preserves the invariant (fewer than 65 536 draws so far). -/
theorem hinv_step {A : Arch} {N : Nat} {kind : Nat → Bool} {w : HWorld A} (op : HOp A)
    (h : HInv A kind w) (hd : w.draws < U16) (hc : op.Consistent kind) :
    HInv A kind (hstep A N w op).1 := by
  cases op with
  | new =>
    simp only [hstep, drawGen]
    apply hinv_draw h hd
    intro u hu
    rcases List.mem_append.mp hu with h1 | h1
    · exact Or.inl h1
    · simp at h1; subst h1; exact Or.inr ⟨rfl, rfl⟩
  | clone i =>
    simp only [hstep]
    split
    · rename_i u hu
      refine ⟨h.counter_eq, ?_, h.entries_ok, h.ghost_drawn⟩
      intro u' hu'
      rcases List.mem_append.mp hu' with h1 | h1
      · exact h.unws_ok u' h1
      · have hm := List.mem_of_getElem? hu
        simp at h1
        rw [h1]
        exact h.unws_ok u hm
    · exact h
  | add i m =>
    simp only [hstep]
    split
    · rename_i u hu
      simp only [drawGen]
      apply hinv_draw h hd
      intro u' hu'
      rcases List.mem_or_eq_of_mem_set hu' with h1 | h1
      · exact Or.inl h1
      · subst h1; exact Or.inr ⟨rfl, rfl⟩
    · exact h
  | remove i start =>
    simp only [hstep]
    split
    · split
      · simp only [drawGen]
        apply hinv_draw h hd
        intro u' hu'
        rcases List.mem_or_eq_of_mem_set hu' with h1 | h1
        · exact Or.inl h1
        · subst h1; exact Or.inr ⟨rfl, rfl⟩
      · exact h
    · exact h
  | unwind i addr regs mem =>
    simp only [hstep]
    split
    · rename_i u hu
      have hu' := h.unws_ok u (List.mem_of_getElem? hu)
      exact ⟨h.counter_eq, h.unws_ok,
        unwindFrame_entriesOK A N kind w.ghost u w.cache addr regs mem h.entries_ok hu' hc,
        h.ghost_drawn⟩
    · exact h

def HWorld.init (A : Arch) (c0 : Nat) : HWorld A :=
  { c0 := c0 % U16, draws := 0, counter := c0 % U16, unws := [], cache := Cache.empty,
    ghost := fun _ => none }

theorem hinv_init (A : Arch) (kind : Nat → Bool) (c0 : Nat) : HInv A kind (HWorld.init A c0) := by
  refine ⟨?_, ?_, ?_, ?_⟩
  · simp [HWorld.init, U16]
  · intro u hu; simp [HWorld.init] at hu
  · intro s e he; simp [HWorld.init, Cache.empty] at he
  · intro g hg; simp [HWorld.init] at hg

/-- Run a history. -/
def hrun (A : Arch) (N : Nat) (w : HWorld A) : List (HOp A) → HWorld A
  | [] => w
  | op :: ops => hrun A N (hstep A N w op).1 ops

def drawsOf {A : Arch} : HOp A → Nat
  | .unwind .. => 0
  | .clone _ => 0
  | _ => 1

theorem hstep_draws_le {A : Arch} {N : Nat} (w : HWorld A) (op : HOp A) :
    (hstep A N w op).1.draws ≤ w.draws + drawsOf op := by
  cases op <;> simp only [hstep, drawsOf, drawGen] <;> (repeat' split) <;> simp

/-- The invariant holds after any history with fewer than 65 536 module-set changes. -/
theorem hinv_run {A : Arch} {N : Nat} {kind : Nat → Bool} :
    ∀ (ops : List (HOp A)) (w : HWorld A), HInv A kind w →
      w.draws + (ops.map drawsOf).sum < U16 → (∀ op ∈ ops, op.Consistent kind) →
      HInv A kind (hrun A N w ops)
  | [], w, h, _, _ => h
  | op :: ops, w, h, hd, hc => by
    simp only [hrun]
    have h1 : w.draws < U16 := by simp at hd; omega
    apply hinv_run ops _ (hinv_step op h h1 (hc op (by simp)))
    · have := hstep_draws_le (N := N) w op
      simp at hd
      omega
    · intro op' ho; exact hc op' (by simp [ho])

end FH
