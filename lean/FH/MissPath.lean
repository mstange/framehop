import FH.World
/-!
# `unwindFrame` taken apart: static plan, dynamic run, cache

`missPath` is `runPlan` (what `with_cache` does with a plan once registers are read) of `planAt`
(the plan of the module the lookup address falls in). Theorems about a whole call rest on this
factorisation and on `MissOut`, the list of outcomes a call can have.
-/
namespace FH

/-! ## The cache -/

theorem lookup_slots {Rule : Type} (N : Nat) (c : Cache Rule) (a g : Nat) :
    (c.lookup N a g).1.slots = c.slots := by
  unfold Cache.lookup
  split
  · rfl
  · split
    · split <;> rfl
    · rfl

theorem lookup_hit_iff {Rule : Type} {N : Nat} {c : Cache Rule} {a g : Nat} {r : Rule} :
    (c.lookup N a g).2 = .hit r ↔ c.slots (a % N) = some ⟨a, g, r⟩ := by
  unfold Cache.lookup
  cases c.slots (a % N) with
  | none => simp
  | some e =>
    obtain ⟨ea, eg, er⟩ := e
    by_cases hg : eg = g <;> by_cases ha : ea = a <;> simp [hg, ha]

theorem insert_slots {Rule : Type} (N : Nat) (c : Cache Rule) (a g : Nat) (r : Rule) (s : Nat) :
    (c.insert N a g r).slots s = if s = a % N then some ⟨a, g, r⟩ else c.slots s := rfl

/-- Every entry of the rule cache satisfies `Q`. -/
def Cache.All {Rule : Type} (Q : Entry Rule → Prop) (c : Cache Rule) : Prop :=
  ∀ s e, c.slots s = some e → Q e

theorem Cache.All.insert {Rule : Type} {Q : Entry Rule → Prop} {c : Cache Rule} (hc : c.All Q)
    (N a g : Nat) {r : Rule} (hr : Q ⟨a, g, r⟩) : (c.insert N a g r).All Q := by
  intro s e he
  rw [insert_slots] at he
  split at he
  · cases he; exact hr
  · exact hc s e he

/-! ## The miss path = `runPlan` of `planAt` -/

/-- The part of `with_cache` after the callback has decided: the rule to insert (if any) and the
outcome. -/
def runPlan (A : Arch) (first : Bool) (regs : A.Regs) (mem : Mem) :
    Plan A.Rule → Option A.Rule × Out A.Regs
  | .exec r => (some r, A.exec r first regs mem)
  | .staticErr => (some A.fallback, A.exec A.fallback first regs mem)
  | .panic => (none, .panic (.other 5))
  | .generic row =>
    match A.generic row first regs mem with
    | .ok ra regs' => (none, .ret (resOfRa ra) regs')
    | .err _ => (none, A.exec A.fallback first regs mem)
    | .panic s => (none, .panic s)
  | .pe p =>
    match A.peRun p first regs mem with
    | .ok ra regs' => (none, .ret (resOfRa ra) regs')
    | .err _ => (none, A.exec A.fallback first regs mem)
    | .panic s => (none, .panic s)

/-- What `with_cache` decides before registers are read: the plan of the module the lookup
address falls in; no module is handled like a static error (fallback rule, cached). -/
def planAt (A : Arch) (L : List Module) (la : Nat) (first : Bool) : Plan A.Rule :=
  match findModule L la with
  | none => .staticErr
  | some (i, rel) =>
    match L[i]? with
    | none => .staticErr
    | some m => plan A m rel first

theorem missPath_eq (A : Arch) (u : Unw) (addr : FrameAddr) (regs : A.Regs) (mem : Mem) :
    missPath A u addr regs mem =
      runPlan A (!addr.isReturn) regs mem (planAt A u.mods addr.lookup (!addr.isReturn)) := by
  unfold missPath planAt
  dsimp only
  cases findModule u.mods addr.lookup with
  | none => rfl
  | some p =>
    dsimp only
    cases u.mods[p.1]? <;> rfl

/-- The rule `with_cache` inserts for a plan. -/
def Plan.cached {Rule : Type} (fb : Rule) : Plan Rule → Option Rule
  | .exec r => some r
  | .staticErr => some fb
  | _ => none

theorem runPlan_fst (A : Arch) (first : Bool) (regs : A.Regs) (mem : Mem) (pl : Plan A.Rule) :
    (runPlan A first regs mem pl).1 = pl.cached A.fallback := by
  cases pl with
  | generic row => simp only [runPlan]; cases A.generic row first regs mem <;> rfl
  | pe p => simp only [runPlan]; cases A.peRun p first regs mem <;> rfl
  | _ => rfl

theorem planAt_of_find {A : Arch} {L : List Module} {la i rel : Nat} {m : Module}
    (hf : findModule L la = some (i, rel)) (hm : L[i]? = some m) (first : Bool) :
    planAt A L la first = plan A m rel first := by
  simp only [planAt, hf, hm]

theorem planAt_of_none {A : Arch} {L : List Module} {la : Nat}
    (hf : findModule L la = none) (first : Bool) : planAt A L la first = .staticErr := by
  simp only [planAt, hf]

theorem planAt_cases (A : Arch) (L : List Module) (la : Nat) (first : Bool) :
    planAt A L la first = .staticErr ∨
    ∃ i rel m, findModule L la = some (i, rel) ∧ L[i]? = some m ∧
      planAt A L la first = plan A m rel first := by
  unfold planAt
  cases hf : findModule L la with
  | none => exact .inl rfl
  | some p =>
    obtain ⟨i, rel⟩ := p
    dsimp only
    cases hm : L[i]? with
    | none => exact .inl rfl
    | some m => exact .inr ⟨i, rel, m, rfl, hm, rfl⟩

theorem planAt_ne_panic {A : Arch} (h : ∀ m rel first, plan A m rel first ≠ .panic)
    (L : List Module) (la : Nat) (first : Bool) : planAt A L la first ≠ .panic := by
  rcases planAt_cases A L la first with e | ⟨_, rel, m, _, _, e⟩ <;> rw [e]
  · intro h; cases h
  · exact h m rel first

theorem missPath_of_plan {A : Arch} {u : Unw} {addr : FrameAddr} {i rel : Nat} {m : Module}
    (hf : findModule u.mods addr.lookup = some (i, rel)) (hm : u.mods[i]? = some m)
    {pl : Plan A.Rule} (hp : plan A m rel (!addr.isReturn) = pl) (regs : A.Regs) (mem : Mem) :
    missPath A u addr regs mem = runPlan A (!addr.isReturn) regs mem pl := by
  rw [missPath_eq, planAt_of_find hf hm, hp]

theorem cached_eq_some {Rule : Type} {fb r : Rule} {pl : Plan Rule}
    (h : pl.cached fb = some r) : pl = .exec r ∨ r = fb := by
  cases pl <;> simp only [Plan.cached] at h <;> cases h <;> simp

theorem runPlan_snd_of_cached {A : Arch} {first : Bool} {regs : A.Regs} {mem : Mem}
    {pl : Plan A.Rule} {r : A.Rule} (h : (runPlan A first regs mem pl).1 = some r) :
    (runPlan A first regs mem pl).2 = A.exec r first regs mem := by
  rw [runPlan_fst] at h
  cases pl <;> simp only [Plan.cached] at h <;> cases h <;> rfl

/-! ## The outcomes of a call -/

/-- The outcomes of `with_cache`, `G` being any property of the rules involved: the step of a
rule (of the plan, cached, or the fallback after a static or dynamic error), an uncacheable step
that succeeded, a panic. -/
inductive MissOut (A : Arch) (G : A.Rule → Prop) (pl : Plan A.Rule) (first : Bool)
    (regs : A.Regs) (mem : Mem) (out : Out A.Regs) : Prop
  | rule (r : A.Rule) (hr : G r) (e : out = A.exec r first regs mem)
  | generic (row : Row) (ra : Nat) (regs' : A.Regs)
      (h : A.generic row first regs mem = .ok ra regs') (e : out = .ret (resOfRa ra) regs')
  | pe (p : PePlan) (ra : Nat) (regs' : A.Regs)
      (h : A.peRun p first regs mem = .ok ra regs') (e : out = .ret (resOfRa ra) regs')
  | panic (s : Site) (e : out = .panic s)
      (h : pl = .panic ∨ (∃ row, A.generic row first regs mem = .panic s) ∨
        ∃ p, pl = .pe p ∧ A.peRun p first regs mem = .panic s)

theorem runPlan_out {A : Arch} {G : A.Rule → Prop} {pl : Plan A.Rule} (hG : ∀ r, pl = .exec r → G r)
    (hfb : G A.fallback) (first : Bool) (regs : A.Regs) (mem : Mem) :
    MissOut A G pl first regs mem (runPlan A first regs mem pl).2 := by
  cases pl with
  | exec r => exact .rule r (hG r rfl) rfl
  | staticErr => exact .rule _ hfb rfl
  | panic => exact .panic _ rfl (.inl rfl)
  | generic row =>
    simp only [runPlan]
    cases hg : A.generic row first regs mem with
    | ok ra regs' => exact .generic row ra regs' hg rfl
    | err e => exact .rule _ hfb rfl
    | panic s => exact .panic s rfl (.inr (.inl ⟨row, hg⟩))
  | pe p =>
    simp only [runPlan]
    cases hg : A.peRun p first regs mem with
    | ok ra regs' => exact .pe p ra regs' hg rfl
    | err e => exact .rule _ hfb rfl
    | panic s => exact .panic s rfl (.inr (.inr ⟨p, rfl, hg⟩))

theorem resOfRa_frame {ra x : Nat} (h : resOfRa ra = .frame x) : ra = x ∧ x ≠ 0 := by
  unfold resOfRa at h
  split at h
  · cases h
  · cases h; exact ⟨rfl, ‹_›⟩

theorem MissOut.frame {A : Arch} {G : A.Rule → Prop} {pl : Plan A.Rule} {first : Bool}
    {regs regs' : A.Regs} {mem : Mem} {out : Out A.Regs} {ra : Nat}
    (hm : MissOut A G pl first regs mem out) (h : out = .ret (.frame ra) regs') :
    (∃ r, G r ∧ A.exec r first regs mem = .ret (.frame ra) regs') ∨
    ra ≠ 0 ∧ ((∃ row, A.generic row first regs mem = .ok ra regs') ∨
      ∃ p, A.peRun p first regs mem = .ok ra regs') := by
  cases hm with
  | rule r hr e => exact .inl ⟨r, hr, e ▸ h⟩
  | generic row ra' g hg e =>
    injection e.symm.trans h with h1 h2
    obtain ⟨rfl, hne⟩ := resOfRa_frame h1
    exact .inr ⟨hne, .inl ⟨row, h2 ▸ hg⟩⟩
  | pe p ra' g hg e =>
    injection e.symm.trans h with h1 h2
    obtain ⟨rfl, hne⟩ := resOfRa_frame h1
    exact .inr ⟨hne, .inr ⟨p, h2 ▸ hg⟩⟩
  | panic s e _ => cases e.symm.trans h

theorem MissOut.panicked {A : Arch} {G : A.Rule → Prop} {pl : Plan A.Rule} {first : Bool}
    {regs : A.Regs} {mem : Mem} {out : Out A.Regs} {s : Site}
    (hm : MissOut A G pl first regs mem out) (h : out = .panic s) :
    (∃ r, G r ∧ A.exec r first regs mem = .panic s) ∨ pl = .panic ∨
    (∃ row, A.generic row first regs mem = .panic s) ∨
    ∃ p, pl = .pe p ∧ A.peRun p first regs mem = .panic s := by
  cases hm with
  | rule r hr e => exact .inl ⟨r, hr, e ▸ h⟩
  | generic _ _ _ _ e => cases e.symm.trans h
  | pe _ _ _ _ e => cases e.symm.trans h
  | panic s' e hp => cases e.symm.trans h; exact .inr hp

/-- Every rule `with_cache` can execute for these modules satisfies `G`. -/
structure PlansAll (A : Arch) (G : A.Rule → Prop) (L : List Module) : Prop where
  plan : ∀ m ∈ L, ∀ rel first r, plan A m rel first = .exec r → G r
  fallback : G A.fallback

theorem PlansAll.planAt {A : Arch} {G : A.Rule → Prop} {L : List Module} (hL : PlansAll A G L)
    {la : Nat} {first : Bool} {r : A.Rule} (h : planAt A L la first = .exec r) : G r := by
  rcases planAt_cases A L la first with e | ⟨i, rel, m, _, hm, e⟩
  · rw [e] at h; cases h
  · exact hL.plan m (List.mem_of_getElem? hm) rel first r (e ▸ h)

theorem missPath_out {A : Arch} {G : A.Rule → Prop} {u : Unw} (hu : PlansAll A G u.mods)
    (addr : FrameAddr) (regs : A.Regs) (mem : Mem) :
    MissOut A G (planAt A u.mods addr.lookup (!addr.isReturn)) (!addr.isReturn) regs mem
      (missPath A u addr regs mem).2 := by
  rw [missPath_eq]
  exact runPlan_out (fun r => hu.planAt) hu.fallback _ regs mem

theorem missPath_inserts {A : Arch} {G : A.Rule → Prop} {u : Unw} (hu : PlansAll A G u.mods)
    {addr : FrameAddr} {regs : A.Regs} {mem : Mem} {r : A.Rule}
    (h : (missPath A u addr regs mem).1 = some r) : G r := by
  rw [missPath_eq, runPlan_fst] at h
  rcases cached_eq_some h with e | rfl
  · exact hu.planAt e
  · exact hu.fallback

/-! ## The whole call -/

theorem unwindFrame_hit {A : Arch} {N : Nat} {u : Unw} {c : Cache A.Rule} {addr : FrameAddr}
    {r : A.Rule} (h : (c.lookup N addr.lookup u.gen).2 = .hit r) (regs : A.Regs) (mem : Mem) :
    unwindFrame A N u c addr regs mem =
      ((c.lookup N addr.lookup u.gen).1, A.exec r (!addr.isReturn) regs mem) := by
  simp only [unwindFrame, h]

theorem unwindFrame_miss {A : Arch} {N : Nat} {u : Unw} {c : Cache A.Rule} {addr : FrameAddr}
    (h : (c.lookup N addr.lookup u.gen).2 = .miss) (regs : A.Regs) (mem : Mem) :
    unwindFrame A N u c addr regs mem =
      (match (missPath A u addr regs mem).1 with
       | some r => (c.lookup N addr.lookup u.gen).1.insert N addr.lookup u.gen r
       | none => (c.lookup N addr.lookup u.gen).1,
       (missPath A u addr regs mem).2) := by
  simp only [unwindFrame, h]
  cases (missPath A u addr regs mem).1 <;> rfl

theorem unwindFrame_all {A : Arch} {Q : Entry A.Rule → Prop} {N : Nat} {u : Unw} {c : Cache A.Rule}
    {addr : FrameAddr} {regs : A.Regs} {mem : Mem} (hc : c.All Q)
    (hins : ∀ r, (missPath A u addr regs mem).1 = some r → Q ⟨addr.lookup, u.gen, r⟩) :
    (unwindFrame A N u c addr regs mem).1.All Q := by
  have hl : (c.lookup N addr.lookup u.gen).1.All Q := by
    intro s e he; rw [lookup_slots] at he; exact hc s e he
  cases h : (c.lookup N addr.lookup u.gen).2 with
  | hit r => rw [unwindFrame_hit h]; exact hl
  | miss =>
    rw [unwindFrame_miss h]
    cases hi : (missPath A u addr regs mem).1 with
    | none => exact hl
    | some r => exact hl.insert _ _ _ (hins r hi)

theorem unwindFrame_out {A : Arch} {G : A.Rule → Prop} {N : Nat} {u : Unw} {c : Cache A.Rule}
    (hu : PlansAll A G u.mods) (hc : c.All (G ·.rule)) (addr : FrameAddr) (regs : A.Regs)
    (mem : Mem) :
    (unwindFrame A N u c addr regs mem).1.All (G ·.rule) ∧
    MissOut A G (planAt A u.mods addr.lookup (!addr.isReturn)) (!addr.isReturn) regs mem
      (unwindFrame A N u c addr regs mem).2 := by
  refine ⟨unwindFrame_all hc fun r => missPath_inserts hu, ?_⟩
  cases h : (c.lookup N addr.lookup u.gen).2 with
  | hit r =>
    rw [unwindFrame_hit h]
    exact .rule r (hc _ _ (lookup_hit_iff.mp h)) rfl
  | miss =>
    rw [unwindFrame_miss h]
    exact missPath_out hu addr regs mem

end FH
