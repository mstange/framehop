import FH.MissPath
import FH.RuleLemmas
import FH.DwarfSpec
import FH.Props.C14
/-!
# No panic outcome is reachable in a whole `unwind_frame` call outside the PE interpreter

Every rule the miss path can produce (DWARF translation, compact-unwind opcodes and
instruction analysis, PE compression, fallback rules) has fields within the ranges for which
rule execution is panic free; the generic DWARF path has no panic outcome; the rule cache only
ever holds such rules. Hence `unwindFrame` panics only where the PE operation interpreter
(pe-unwind-info's `resolve_operation`, third-party, F8-dep) does.
-/
namespace FH

/-! ## DWARF translation -/

theorem translateX64_safe {row : Row} {r : RuleX64} (h : translateX64 row = some r) : r.Safe := by
  cases translateX64_some h with
  | endOfStack | useFramePointer => trivial
  | offsetSp _ _ hk _ => exact (exactDivU16_some hk).2
  | restoreBp _ _ hk _ hs => exact ⟨(exactDivU16_some hk).2, (exactSumDiv8I16_some hs).2⟩

theorem translateA64_wf {row : Row} {r : RuleA64} (h : translateA64 row = some r) : r.WF := by
  cases translateA64_some h with
  | useFramePointer => trivial
  | stackEnds _ hk | offsetSp _ hk => exact (exactDivU16_some hk).2
  | restoreLr _ hk _ _ hl => exact ⟨(exactDivU16_some hk).2, (exactSumDiv8I16_some hl).2⟩
  | restoreFpLr _ hk _ _ hl hf | fpOffsets _ hk _ _ hl hf =>
    exact ⟨(exactDivU16_some hk).2, (exactSumDiv8I16_some hf).2, (exactSumDiv8I16_some hl).2⟩

/-! ## The generic DWARF path has no panic outcome -/

theorem genericX64_no_panic (row : Row) (first : Bool) (regs : RegsX64) (mem : Mem) (s : Site) :
    genericX64 row first regs mem ≠ .panic s := by
  unfold genericX64
  split
  · simp
  · simp only []
    split
    · simp
    · split
      · simp
      · split <;> simp

theorem genericA64_no_panic (row : Row) (first : Bool) (regs : RegsA64) (mem : Mem) (s : Site) :
    genericA64 row first regs mem ≠ .panic s := by
  unfold genericA64
  split
  · simp
  · split
    · simp
    · simp only []
      split
      · split
        · simp
        · split
          · simp
          · split <;> simp
      · simp

/-! ## Instruction analysis -/

theorem epiRule_safe {n : Nat} {acc : Option Nat} {r : RuleX64} (h : epiRule n acc = some r)
    (hacc : ∀ b, acc = some b → b < 32768) : r.Safe := by
  unfold epiRule at h
  split at h
  · cases h; trivial
  · split at h
    · cases acc with
      | none => cases h; assumption
      | some b => cases h; exact ⟨by assumption, by have := hacc b rfl; omega⟩
    · cases h

theorem prologueScanX64_safe (fuel : Nat) (rev : List Nat) (n : Nat) (r : RuleX64)
    (h : prologueScanX64 fuel rev n = some r) : r.Safe := by
  fun_induction prologueScanX64 fuel rev n
  case case4 ih => exact ih h
  case case5 ih => exact ih h
  case case6 ih => exact ih h
  all_goals cases h <;> first | trivial | assumption

/-- The rbp slot the scan remembers is the count at that moment, which stays below 2¹⁵. -/
theorem epilogueScanX64_safe (prev : Bool) (l : List Nat) (n : Nat) (acc : Option Nat) (fuel : Nat)
    (r : RuleX64) (hacc : ∀ b, acc = some b → b < 32768)
    (h : epilogueScanX64 prev l n acc fuel = some r) : r.Safe := by
  fun_induction epilogueScanX64 prev l n acc fuel
  case case7 hn _ _ ih => exact ih (by intro b hb; cases hb; exact hn.1) h
  case case9 ih => exact ih hacc h
  case case11 ih => exact ih hacc h
  all_goals first
    | cases h
    | exact epiRule_safe h hacc

/-- Whatever the bytes, a rule found by x86-64 instruction analysis is within the safe ranges. -/
theorem anaX64_safe (text : List Nat) (pc : Nat) (r : RuleX64)
    (h : anaX64 text pc = some (some r)) : r.Safe := by
  unfold anaX64 at h
  cases hp : anaPrologueX64 text pc with
  | none => simp [hp] at h
  | some o =>
    cases o with
    | some r' =>
      simp only [hp] at h
      injection h with h; injection h with h; subst h
      unfold anaPrologueX64 at hp
      split at hp
      · cases hp
      · dsimp only at hp
        split at hp
        · cases hp
        · injection hp with hp
          exact prologueScanX64_safe _ _ _ _ hp
    | none =>
      simp only [hp] at h
      unfold anaEpilogueX64 at h
      split at h
      · cases h
      · dsimp only at h
        injection h with h
        exact epilogueScanX64_safe _ _ _ _ _ _ (by intro b hb; cases hb) h

theorem epiFound_wf {s : EpiState} {r : RuleA64} (h : epiFound s = some r) : r.WF := by
  unfold epiFound at h
  dsimp only at h
  split at h
  · cases h
  · rename_i hq
    have hq' : 0 ≤ s.spOff.tdiv 16 ∧ s.spOff.tdiv 16 < 65536 := by
      by_cases c : 0 ≤ s.spOff.tdiv 16 ∧ s.spOff.tdiv 16 < 65536
      · exact c
      · exact absurd c hq
    have hk : (s.spOff.tdiv 16).toNat < U16 := by unfold U16; omega
    split at h
    · split at h
      · injection h with h; subst h; simp [RuleA64.WF]
      · injection h with h; subst h; simpa [RuleA64.WF]
    · split at h
      · simp only [Option.map_some, Option.some.injEq] at h
        subst h
        simp only [RuleA64.WF, InI16]
        exact ⟨hk, by assumption⟩
      · simp at h
    · cases h
    · split at h
      · rename_i f' l' hf hl
        injection h with h; subst h
        simp only [RuleA64.WF, InI16]
        split at hf
        · injection hf with hf; subst hf
          split at hl
          · injection hl with hl; subst hl
            exact ⟨hk, by assumption, by assumption⟩
          · cases hl
        · cases hf
      · cases h

theorem anaPrologueA64_wf {text : List Nat} {pc : Nat} {r : RuleA64}
    (h : anaPrologueA64 text pc = some (some r)) : r.WF := by
  revert h
  fun_cases anaPrologueA64 text pc <;> intro h
  case case6 hq =>
    cases h; split
    · trivial
    · simp only [RuleA64.WF, U16]; omega
  all_goals cases h

theorem anaA64_wf (text : List Nat) (pc : Nat) (r : RuleA64)
    (h : anaA64 text pc = some (some r)) : r.WF := by
  unfold anaA64 at h
  split at h
  · cases h
  · cases h; exact anaPrologueA64_wf ‹_›
  · obtain ⟨s, hs⟩ := anaEpilogueA64_found h; exact epiFound_wf hs

/-! ## Compact unwind -/

/-- Field ranges of the parsed opcodes (`stack_size_in_bytes` is a `u16` in macho-unwind-info:
an 8-bit field times 8 on x86-64, a 12-bit field times 16 on arm64). -/
def CuiOpX64.WF : CuiOpX64 → Prop
  | .framelessImmediate s _ => s < 65536
  | _ => True

def CuiOpA64.WF : CuiOpA64 → Prop
  | .frameless s => s < 65536
  | _ => True

theorem framelessRuleX64_safe {s : Nat} {saved : List (Option CuiReg)} {r : RuleX64}
    (hs : s < 524288) (h : framelessRuleX64 s saved = .exec r) : r.Safe := by
  unfold framelessRuleX64 at h
  split at h
  · dsimp only at h
    split at h
    · injection h with h; subst h
      simp only [RuleX64.Safe]
      refine ⟨by unfold U16; omega, by omega, by omega⟩
    · cases h
  · injection h with h; subst h
    simp only [RuleX64.Safe]; unfold U16; omega

theorem cuiUnwindX64_caller_safe {op : CuiOpX64} {off : Nat} {fb : Option (List Nat)}
    {r : RuleX64} (hop : op.WF) (h : cuiUnwindX64 op false off fb = some (.exec r)) : r.Safe := by
  cases op with
  | framelessImmediate s saved =>
    simp only [cuiUnwindX64, Bool.false_eq_true, if_false, Option.some.injEq] at h
    split at h
    · cases h; trivial
    · exact framelessRuleX64_safe (by simp only [CuiOpX64.WF] at hop; omega) h
  | framelessIndirect i a saved =>
    -- past its three range checks this opcode computes `framelessRuleX64` of the size it read
    simp only [cuiUnwindX64, Bool.false_eq_true, if_false, Option.some.injEq] at h
    split at h
    · cases h
    · split at h
      · split at h
        · split at h
          · rename_i hs; exact framelessRuleX64_safe (by unfold U16 at hs; omega) h
          · cases h
        · cases h
      · cases h
  | frameBased => cases h; trivial
  | _ => cases h

theorem cuiUnwindX64_safe {op : CuiOpX64} {first : Bool} {off : Nat} {fb : Option (List Nat)}
    {r : RuleX64} (hop : op.WF) (h : cuiUnwindX64 op first off fb = some (.exec r)) : r.Safe := by
  cases first with
  | false => exact cuiUnwindX64_caller_safe hop h
  | true =>
    rcases cuiUnwindX64_first op off fb _ h with ⟨b, rule, _, ha, hr⟩ | ⟨_, hr | hr⟩ | ⟨_, _, hc⟩
    · cases hr; exact anaX64_safe _ _ _ ha
    · cases hr; trivial
    · cases hr; trivial
    · exact cuiUnwindX64_caller_safe hop hc

theorem cuiUnwindA64_wf {op : CuiOpA64} {first : Bool} {off : Nat} {fb : Option (List Nat)}
    {r : RuleA64} (hop : op.WF) (h : cuiUnwindA64 op first off fb = some (.exec r)) : r.WF := by
  unfold cuiUnwindA64 at h
  extract_lets body at h
  have hbody : ∀ r, body = .exec r → r.WF := by
    intro r hb
    cases op with
    | null => simp only [body] at hb; cases hb
    | frameless s =>
      simp only [body] at hb
      repeat' split at hb
      all_goals first
        | (injection hb with hb; subst hb; simp only [RuleA64.WF]
           try (simp only [CuiOpA64.WF] at hop; unfold U16; omega))
        | cases hb
    | dwarf f => simp only [body] at hb; cases hb
    | frameBased => simp only [body] at hb; injection hb with hb; subst hb; simp [RuleA64.WF]
    | unrecognized k => simp only [body] at hb; cases hb
  clear_value body
  split at h
  · split at h
    · injection h with h; injection h with h; subst h; simp [RuleA64.WF]
    · split at h
      · split at h
        · cases h
        · rename_i rule ha
          injection h with h; injection h with h; subst h
          exact anaA64_wf _ _ _ ha
        · injection h with h; exact hbody r h
      · injection h with h; exact hbody r h
  · injection h with h; exact hbody r h

/-- Every rule the dispatch can return is one of: the stub rule, the function start rule, a stub
helper rule, a rule of the architecture's opcode handler (for an opcode of the table). -/
theorem cuiDispatch_rule {Op Rule : Type} (P : Rule → Prop) (Q : Op → Prop) (d : CuiData Op)
    (unwindFn : Op → Bool → Nat → Option (List Nat) → Option (CuiRes Rule))
    (stubRule fnStartRule : Rule) (stubHelperRule : Nat → Rule) (rel : Nat) (first : Bool)
    (h1 : P stubRule) (h2 : P fnStartRule) (h3 : ∀ o, P (stubHelperRule o))
    (hd : ∀ f ∈ d.funcs, Q f.op)
    (h4 : ∀ op f o fb r, Q op → unwindFn op f o fb = some (.exec r) → P r) (r : Rule)
    (h : cuiDispatch d unwindFn stubRule fnStartRule stubHelperRule rel first = some (.exec r)) :
    P r := by
  revert h
  fun_cases cuiDispatch d unwindFn stubRule fnStartRule stubHelperRule rel first <;> intro h
  case case8 f hl _ _ => exact h4 _ _ _ _ _ (hd f (List.mem_of_find?_eq_some hl)) h
  all_goals cases h <;> first | exact h1 | exact h2 | exact h3 _

theorem stubHelperRuleX64_safe (o : Nat) : (stubHelperRuleX64 o).Safe := by
  unfold stubHelperRuleX64
  repeat' split
  all_goals simp [RuleX64.Safe, U16]

theorem stubHelperRuleA64_wf (o : Nat) : (stubHelperRuleA64 o).WF := by
  unfold stubHelperRuleA64
  repeat' split
  all_goals simp [RuleA64.WF, U16]

/-! ## PE -/

theorem forSeq_safe {items : List OffsetOrPop} {r : RuleX64}
    (hitems : ∀ k, OffsetOrPop.offsetBy8 k ∈ items → k < U16) (h : forSeq items = some r) :
    r.Safe := by
  unfold forSeq at h
  split at h
  rename_i k rest hk
  have hklt : k < U16 := by
    split at hk
    · rename_i k' rest'
      injection hk with hk1 hk2
      subst hk1
      exact hitems _ (by simp)
    · injection hk with hk1 hk2
      subst hk1; unfold U16; omega
  split at h
  · cases h
  · split at h
    · injection h with h; subst h; simp [RuleX64.Safe]
    · split at h
      · cases h
      · injection h with h; subst h; simpa [RuleX64.Safe] using hklt

theorem pePlan_safe {funcs : List PeFunc} {rel : Nat} {first : Bool} {r : RuleX64}
    (h : pePlan funcs rel first = .exec r) : r.Safe := by
  have hop : ∀ (ops : List PeOp) k, OffsetOrPop.offsetBy8 k ∈ ops.map oopOfOp → k < U16 := by
    intro ops k hk
    simp only [List.mem_map] at hk
    obtain ⟨op, _, ho⟩ := hk
    unfold oopOfOp at ho
    split at ho
    · split at ho
      · rename_i hc; injection ho with ho; subst ho; exact hc.2
      · cases ho
    · cases ho
    · cases ho
  have hepi : ∀ (insns : List EpiInsn) k, OffsetOrPop.offsetBy8 k ∈ insns.map oopOfEpi → k < U16 := by
    intro insns k hk
    simp only [List.mem_map] at hk
    obtain ⟨op, _, ho⟩ := hk
    unfold oopOfEpi at ho
    split at ho
    · split at ho
      · rename_i hc; injection ho with ho; subst ho; exact hc.2
      · cases ho
    · cases ho
    · cases ho
  unfold pePlan at h
  split at h
  · injection h with h; subst h; simp [RuleX64.Safe]
  · split at h
    · cases h
    · dsimp only at h
      split at h
      · cases h
      · rename_i p hp
        subst h
        -- the epilog branch
        split at hp
        · split at hp
          · cases hp
          · split at hp
            · split at hp
              · rename_i rule hr
                injection hp with hp; injection hp with hp; injection hp with hp; subst hp
                exact forSeq_safe (hepi _) hr
              · injection hp with hp; injection hp with hp; cases hp
            · cases hp
        · cases hp
      · split at h
        · cases h
        · split at h
          · rename_i rule hr
            injection h with h; subst h
            exact forSeq_safe (hop _) hr
          · cases h

/-! ## The plan and the miss path -/

/-- Field ranges of the parsed opcodes in a module's compact unwind table (the only module data
whose numeric ranges the rule types depend on; DWARF and PE quantities are range-checked by
framehop itself when it builds a rule). -/
def UnwindData.WF : UnwindData → Prop
  | .macho d _ => ∀ f ∈ d.funcs, f.op.1.WF ∧ f.op.2.WF
  | _ => True

/-- Where the rules of a plan come from, for any architecture. -/
theorem plan_rule (A : Arch) (P : A.Rule → Prop) (m : Module) (rel : Nat) (first : Bool)
    (hunc : P A.uncovered) (htr : ∀ row r, A.translate row = some r → P r)
    (hcui : ∀ d eh r, m.data = .macho d eh → A.cui d rel first = some (.exec r) → P r)
    (hpe : ∀ funcs p r, A.pePlan funcs rel first = some (p, some r) → P r)
    (r : A.Rule) (h : plan A m rel first = .exec r) : P r := by
  revert h
  fun_cases plan A m rel first <;> intro h
  case case4 d eh hd _ hc => cases h; exact hcui d eh _ hd hc
  case case8 =>
    unfold planForFde at h
    split at h
    · cases h; exact hunc
    · split at h
      · cases h; exact htr _ _ ‹_›
      · cases h
  case case11 => cases h; exact hunc
  case case12 => cases h; exact htr _ _ ‹_›
  case case15 hp => cases h; exact hpe _ _ _ hp
  all_goals cases h

/-- **Every rule the x86-64 plan produces is within the safe ranges.** -/
theorem plan_x64_safe (m : Module) (hm : m.data.WF) (rel : Nat) (first : Bool) (r : RuleX64)
    (h : plan archX64 m rel first = .exec r) : r.Safe :=
  plan_rule archX64 RuleX64.Safe m rel first trivial (fun _ _ => translateX64_safe)
    (fun d eh r hd hc => by
      rw [hd] at hm
      exact cuiDispatch_rule RuleX64.Safe (fun op => op.1.WF) d (fun op => cuiUnwindX64 op.1)
        .justReturn .justReturn stubHelperRuleX64 rel first trivial trivial stubHelperRuleX64_safe
        (fun f hf => (hm f hf).1) (fun _ _ _ _ _ hq hh => cuiUnwindX64_safe hq hh) _ hc)
    (fun funcs p r hp => by
      simp only [archX64, Option.some.injEq, Prod.mk.injEq] at hp
      obtain ⟨rfl, hp⟩ := hp
      split at hp
      · cases hp; exact pePlan_safe ‹_›
      · cases hp) r h

/-- **Every rule the aarch64 plan produces has fields within the rule's types.** -/
theorem plan_a64_wf (m : Module) (hm : m.data.WF) (rel : Nat) (first : Bool) (r : RuleA64)
    (h : plan archA64 m rel first = .exec r) : r.WF :=
  plan_rule archA64 RuleA64.WF m rel first trivial (fun _ _ => translateA64_wf)
    (fun d eh r hd hc => by
      rw [hd] at hm
      exact cuiDispatch_rule RuleA64.WF (fun op => op.2.WF) d (fun op => cuiUnwindA64 op.2)
        .noOp .noOp stubHelperRuleA64 rel first trivial trivial stubHelperRuleA64_wf
        (fun f hf => (hm f hf).2) (fun _ _ _ _ _ hq hh => cuiUnwindA64_wf hq hh) _ hc)
    (fun _ _ _ hp => nomatch hp) r h

/-- All modules of an unwinder have their opcode fields in range. -/
def Unw.WF (u : Unw) : Prop := ∀ m ∈ u.mods, m.data.WF

theorem plansAll_x64 {u : Unw} (hu : u.WF) : PlansAll archX64 RuleX64.Safe u.mods :=
  ⟨fun m hm rel first r => plan_x64_safe m (hu m hm) rel first r, trivial⟩

theorem plansAll_a64 {u : Unw} (hu : u.WF) : PlansAll archA64 RuleA64.WF u.mods :=
  ⟨fun m hm rel first r => plan_a64_wf m (hu m hm) rel first r, trivial⟩

/-! ## The whole call -/

def CacheSafeX64 (c : Cache RuleX64) : Prop := ∀ s e, c.slots s = some e → e.rule.Safe
def CacheWFA64 (c : Cache RuleA64) : Prop := ∀ s e, c.slots s = some e → e.rule.WF

end FH
