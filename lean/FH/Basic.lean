/-!
# Basic definitions shared by the whole model

Numbers are `Nat`/`Int`; the machine word bound `2^64` is explicit wherever the Rust code
relies on it. A Rust panic (unchecked arithmetic in an overflow-checked build, slice
index out of range, `unwrap` on `None`) is an explicit outcome `Out.panic`, so "never
panics" is a statement about the model, not an artefact of totality in Lean.
-/
namespace FH

/-- `2^64`. -/
def U64 : Nat := 18446744073709551616
/-- `2^63`. -/
def I64 : Nat := 9223372036854775808
/-- `2^32`. -/
def U32 : Nat := 4294967296
/-- `2^16`. -/
def U16 : Nat := 65536
/-- `2^15`. -/
def I16 : Nat := 32768

/-- `framehop::Error` -/
inductive Err where
  | couldNotReadStack (addr : Nat)
  | fpMovedBackwards
  | didNotAdvance
  | integerOverflow
  | returnAddressIsNull
  deriving DecidableEq, Repr, Inhabited

/-- `Result<Option<u64>, Error>` as returned by `unwind_frame` / rule `exec`. -/
inductive Res where
  | frame (ra : Nat)
  | done
  | err (e : Err)
  deriving DecidableEq, Repr, Inhabited

/-- Places where the Rust code can panic (in an overflow-checked build). -/
inductive Site where
  | a64FpPlus8            -- `fp + 8` in the aarch64 frame pointer rules
  | ptrAuthShift          -- `u64::MAX >> 64`
  | lookupMinus1          -- `address - 1` for a zero return address (excluded by NonZeroU64)
  | other (n : Nat)
  deriving DecidableEq, Repr, Inhabited

/-- Outcome of a model function: a result plus the register file after the call
(the Rust code mutates `regs` in place, also on some error paths), or a panic. -/
inductive Out (R : Type) where
  | ret (res : Res) (regs : R)
  | panic (site : Site)
  deriving Repr

/-- A stack reader: any contents, any subset of addresses failing. -/
abbrev Mem := Nat → Option Nat

/-- All values a reader returns are 64-bit. -/
def Mem.WF (m : Mem) : Prop := ∀ a v, m a = some v → v < U64

/-- `u64::checked_add`. -/
def cadd (a b : Nat) : Option Nat := if a + b < U64 then some (a + b) else none

/-- `AddSigned::wrapping_add_signed` for `u64` (`self.wrapping_add(rhs as u64)`). -/
def wrappingAddSigned (a : Nat) (b : Int) : Nat := (((a : Int) + b) % 18446744073709551616).toNat

/-- `AddSigned::checked_add_signed` for `u64`, as written in `add_signed.rs`
(wrapping add, then compare with the left operand). -/
def caddSigned (a : Nat) (b : Int) : Option Nat :=
  let res := wrappingAddSigned a b
  if (b ≥ 0 ∧ res ≥ a) ∨ (b < 0 ∧ res < a) then some res else none

/-- The mathematical meaning of a checked signed add. -/
def caddSignedSpec (a : Nat) (b : Int) : Option Nat :=
  if 0 ≤ (a : Int) + b ∧ (a : Int) + b < 18446744073709551616 then some ((a : Int) + b).toNat else none

theorem cadd_some {a b r : Nat} (h : cadd a b = some r) : r = a + b ∧ a + b < U64 := by
  unfold cadd at h; split at h <;> simp_all

theorem cadd_none {a b : Nat} (h : cadd a b = none) : U64 ≤ a + b := by
  unfold cadd at h; split at h <;> simp_all

/-- `checked_add_signed` as implemented equals the mathematical definition on the whole
`u64 × i64` domain. -/
theorem caddSigned_eq_spec (a : Nat) (b : Int) (ha : a < U64)
    (hb1 : -9223372036854775808 ≤ b) (hb2 : b < 9223372036854775808) :
    caddSigned a b = caddSignedSpec a b := by
  unfold caddSigned caddSignedSpec wrappingAddSigned
  unfold U64 at ha
  simp only []
  -- the wrapped sum compares with `a` as the code tests exactly when the true sum is in range
  split <;> split
  · congr 1; omega
  · omega
  · omega
  · rfl

theorem caddSigned_some {a : Nat} {b : Int} {r : Nat} (ha : a < U64)
    (hb1 : -9223372036854775808 ≤ b) (hb2 : b < 9223372036854775808) (h : caddSigned a b = some r) :
    (r : Int) = (a : Int) + b ∧ r < U64 := by
  rw [caddSigned_eq_spec a b ha hb1 hb2] at h
  unfold caddSignedSpec at h
  split at h
  · simp at h; subst h; unfold U64 at *; omega
  · simp at h

end FH
