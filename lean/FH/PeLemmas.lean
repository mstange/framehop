import FH.Pe
import FH.RuleSteps
/-!
# PE: the cacheable pop rule and the operation interpreter agree with the documented
procedure for push/alloc prologs (C03)
-/
namespace FH

/-- The documented procedure for a frame whose prolog allocated `8·k` bytes after pushing the
registers `regs` (framehop numbering, innermost push first when unwinding): release the
allocation, pop the registers, pop the return address. Over unbounded naturals; `none` if a
slot is unreadable. Returns the return address and the register file. -/
def popSpecLoop (mem : Mem) : List Nat → Nat → (Nat → Nat) → Option (Nat × (Nat → Nat))
  | [], sp, r =>
    match mem sp with
    | none => none
    | some ra => some (ra, setReg r RSP (sp + 8))
  | reg :: rest, sp, r =>
    match mem sp with
    | none => none
    | some v => popSpecLoop mem rest (sp + 8) (setReg r reg v)

def popSpec (mem : Mem) (k : Nat) (regs : List Nat) (r : Nat → Nat) : Option (Nat × (Nat → Nat)) :=
  popSpecLoop mem regs (r RSP + 8 * k) r

theorem popSpecLoop_sp (mem : Mem) : ∀ (l : List Nat) (sp : Nat) (r : Nat → Nat) (ra : Nat)
    (r' : Nat → Nat), popSpecLoop mem l sp r = some (ra, r') → r' RSP = sp + 8 * l.length + 8
  | [], sp, r, ra, r', h => by
    simp only [popSpecLoop] at h
    split at h <;> cases h
    simp
  | reg :: rest, sp, r, ra, r', h => by
    simp only [popSpecLoop] at h
    split at h
    · cases h
    · rw [popSpecLoop_sp mem rest _ _ ra r' h, List.length_cons]; omega

/-- The rule's pop loop computes the specification's registers (apart from RSP, which the rule
commits at the end). -/
theorem popLoop_of_spec (mem : Mem) : ∀ (l : List Nat) (sp : Nat) (r : Nat → Nat) (ra : Nat)
    (r' : Nat → Nat), sp + 8 * l.length + 8 < U64 → popSpecLoop mem l sp r = some (ra, r') →
    ∃ r2, popLoop mem l sp r = .ok (sp + 8 * l.length) r2 ∧ mem (sp + 8 * l.length) = some ra ∧
      r' = setReg r2 RSP (sp + 8 * l.length + 8)
  | [], sp, r, ra, r', _, h => by
    simp only [popSpecLoop] at h
    split at h <;> cases h
    exact ⟨r, rfl, ‹_›, rfl⟩
  | reg :: rest, sp, r, ra, r', hlt, h => by
    simp only [popSpecLoop] at h
    split at h
    · cases h
    · rename_i v hv
      simp only [List.length_cons] at hlt ⊢
      obtain ⟨r2, h1, h2, h3⟩ := popLoop_of_spec mem rest (sp + 8) _ ra r' (by omega) h
      rw [show sp + 8 + 8 * rest.length = sp + 8 * (rest.length + 1) by omega] at h1 h2 h3
      exact ⟨r2, by simp only [popLoop, hv, cadd_eq_some (show sp + 8 < U64 by omega), h1], h2, h3⟩

/-- The interpreter on a run of pops performs the documented procedure. It keeps the stack pointer
in the register file while the specification threads it beside a file `ρ` whose own `RSP` entry is
never read: hence the statement about `setReg ρ RSP sp`. -/
theorem interpOps_pops (mem : Mem) : ∀ (pes : List Nat) (sp : Nat) (ρ : Nat → Nat) (ra : Nat)
    (r' : Nat → Nat), sp + 8 * pes.length + 8 < U64 →
    popSpecLoop mem (pes.map peReg) sp ρ = some (ra, r') →
    interpOps none 0 mem (pes.map .popNonVolatile) (setReg ρ RSP sp) = .ok ra r'
  | [], sp, ρ, ra, r', hlt, h => by
    simp only [List.map_nil, popSpecLoop] at h
    split at h <;> cases h
    rename_i hv
    simp only [List.map_nil, interpOps, popReturnAddress, setReg_same, hv,
      cadd_eq_some (show sp + 8 < U64 by simpa using hlt), setReg_overwrite]
  | pe :: rest, sp, ρ, ra, r', hlt, h => by
    simp only [List.map_cons, popSpecLoop] at h
    split at h
    · cases h
    · rename_i v hv
      simp only [List.length_cons] at hlt
      simp only [List.map_cons, interpOps, resolveOp, setReg_same, hv]
      rw [if_pos (by omega), setReg_shadow]
      exact interpOps_pops mem rest _ _ ra r' (by omega) h

end FH
