import FH.ModuleLemmas
import FH.Hist
/-!
# C07 — Module set semantics: containment lookup, order independence, removal

The module list refines a finite set of non-overlapping, non-empty address ranges.
-/
namespace FH

/-- An address inside a registered module's range is resolved to that module (its index
in the list and the address relative to its base), provided the base address is not above
the address and the offset fits the `u32` relative-address representation. -/
theorem C07_contained_address_found (mods : List Module) (h : NonOverlap mods) (a j : Nat)
    (m : Module) (hm : mods[j]? = some m) (hc : m.contains a) :
    findModule mods a =
      if a < m.baseAvma then none
      else if a - m.baseAvma < U32 then some (j, a - m.baseAvma) else none :=
  findModule_complete mods h a j m hm hc

/-- Whatever is returned is a registered module that contains the address (any module list). -/
theorem C07_found_module_contains (mods : List Module) (a j rel : Nat)
    (hf : findModule mods a = some (j, rel)) :
    ∃ m, mods[j]? = some m ∧ m.contains a ∧ rel = a - m.baseAvma :=
  let ⟨m, h1, h2, _, h4, _⟩ := findModule_sound mods a j rel hf
  ⟨m, h1, h2, h4⟩

/-- An address no registered module contains is unwound with no module's data - for any module
list whatsoever (overlapping, empty ranges: since 2a4e12e a module with an empty range no longer
claims its start address). -/
theorem C07_uncontained_address_unknown (mods : List Module) (a : Nat)
    (hn : ∀ m ∈ mods, ¬ m.contains a) : findModule mods a = none :=
  findModule_none mods a hn

/-- Adding a module that overlaps none of the registered ones keeps the structure and adds
exactly that module. -/
theorem C07_add (mods : List Module) (m : Module) (h : NonOverlap mods) (hm : m.start < m.stop)
    (hd : ∀ x ∈ mods, x.stop ≤ m.start ∨ m.stop ≤ x.start) :
    NonOverlap (addModule mods m) ∧ ∀ x, x ∈ addModule mods m ↔ x = m ∨ x ∈ mods :=
  addModule_nonOverlap mods m h hm hd

/-- Order independence: the list (hence every lookup) is determined by the *set* of
registered modules. In particular two orders of adding the same modules give equal lists. -/
theorem C07_order_independent (l₁ l₂ : List Module) (h₁ : NonOverlap l₁) (h₂ : NonOverlap l₂)
    (hp : l₁.Perm l₂) : l₁ = l₂ := by
  apply List.Perm.eq_of_pairwise (le := fun a b => a.stop ≤ b.start) _ h₁.1 h₂.1 hp
  intro a b ha hb hab hba
  have := h₁.2 a ha
  have := h₂.2 b hb
  omega

theorem C07_add_commutes (mods : List Module) (a b : Module) (h : NonOverlap mods)
    (ha : a.start < a.stop) (hb : b.start < b.stop)
    (hda : ∀ x ∈ mods, x.stop ≤ a.start ∨ a.stop ≤ x.start)
    (hdb : ∀ x ∈ mods, x.stop ≤ b.start ∨ b.stop ≤ x.start)
    (hab : a.stop ≤ b.start ∨ b.stop ≤ a.start) :
    addModule (addModule mods a) b = addModule (addModule mods b) a := by
  have A := addModule_nonOverlap mods a h ha hda
  have B := addModule_nonOverlap mods b h hb hdb
  have AB := addModule_nonOverlap (addModule mods a) b A.1 hb (by
    intro x hx
    rcases (A.2 x).mp hx with rfl | hx
    · exact hab
    · exact hdb x hx)
  have BA := addModule_nonOverlap (addModule mods b) a B.1 ha (by
    intro x hx
    rcases (B.2 x).mp hx with rfl | hx
    · rcases hab with h1 | h1
      · exact Or.inr h1
      · exact Or.inl h1
    · exact hda x hx)
  apply C07_order_independent _ _ AB.1 BA.1
  have p1 := (addModule_perm (addModule mods a) b).trans ((addModule_perm mods a).cons b)
  have p2 := (addModule_perm (addModule mods b) a).trans ((addModule_perm mods b).cons a)
  exact p1.trans ((List.Perm.swap a b mods).trans p2.symm)

/-- Removing a registered range start removes exactly that module; removing an unknown
start changes nothing (and, see `hstep`, draws no new generation). -/
theorem C07_remove_present (mods : List Module) (h : NonOverlap mods) (j : Nat) (m : Module)
    (hm : mods[j]? = some m) :
    removeModule mods m.start = some (mods.eraseIdx j) ∧ NonOverlap (mods.eraseIdx j) := by
  refine ⟨?_, ?_⟩
  · unfold removeModule
    simp only []
    rw [lowerBound_of_start mods h j m hm, hm]
    simp
  · exact ⟨List.Pairwise.sublist (List.eraseIdx_sublist _ _) h.1,
      fun x hx => h.2 x ((List.eraseIdx_sublist _ _).subset hx)⟩

theorem C07_remove_absent (mods : List Module) (s : Nat) (h : ∀ m ∈ mods, m.start ≠ s) :
    removeModule mods s = none := by
  unfold removeModule
  simp only []
  split
  · rename_i m hm
    have := h m (List.mem_of_getElem? hm)
    simp [this]
  · rfl

/-- After removal the range is unknown again. -/
theorem C07_removed_range_unknown (mods : List Module) (h : NonOverlap mods) (j : Nat) (m : Module)
    (hm : mods[j]? = some m) (a : Nat) (hc : m.contains a) :
    findModule (mods.eraseIdx j) a = none := by
  apply findModule_none _
  intro x hx hcx
  -- `x` is a module of the original list other than the one at index `j`
  have hjl : j < mods.length := (List.getElem?_eq_some_iff.mp hm).1
  obtain ⟨i, hi⟩ := List.getElem?_of_mem hx
  rw [List.getElem?_eraseIdx] at hi
  split at hi
  · rename_i hlt
    have := pairwise_getElem? h.1 hi hm hlt
    have := hc.1; have := hcx.2; omega
  · rename_i hge
    have := pairwise_getElem? h.1 hm hi (by omega)
    have := hc.2; have := hcx.1; omega

/-- The highest known code address is the largest range end, or 0 without modules. -/
theorem C07_max_known (mods : List Module) (h : NonOverlap mods) :
    (mods = [] → maxKnown mods = 0) ∧
    (∀ m ∈ mods, m.stop ≤ maxKnown mods) ∧ (mods ≠ [] → ∃ m ∈ mods, maxKnown mods = m.stop) := by
  unfold maxKnown
  refine ⟨fun e => by simp [e], ?_, ?_⟩
  · intro m hm
    cases hl : mods.getLast? with
    | none => simp [List.getLast?_eq_none_iff] at hl; subst hl; simp at hm
    | some l =>
      simp only []
      obtain ⟨i, hi⟩ := List.getElem?_of_mem hm
      have hlen : i < mods.length := (List.getElem?_eq_some_iff.mp hi).1
      have hlast : mods[mods.length - 1]? = some l := by
        rw [List.getLast?_eq_getElem?] at hl; exact hl
      by_cases e : i = mods.length - 1
      · rw [e, hlast] at hi; injection hi with hi; subst hi; omega
      · have := pairwise_getElem? h.1 hi hlast (by omega)
        have := h.2 l (List.mem_of_getElem? hlast)
        omega
  · intro hne
    cases hl : mods.getLast? with
    | none => simp [List.getLast?_eq_none_iff] at hl; exact (hne hl).elim
    | some l => exact ⟨l, List.mem_of_getLast? hl, rfl⟩

/-- Clones evolve independently: an operation on one unwinder leaves every other
unwinder's module list (and generation) untouched. -/
theorem C07_clones_independent (A : Arch) (N : Nat) (w : HWorld A) (i k : Nat) (m : Module)
    (hik : i ≠ k) : ((hstep A N w (.add i m)).1.unws)[k]? = w.unws[k]? ∧
      ∀ s, ((hstep A N w (.remove i s)).1.unws)[k]? = w.unws[k]? := by
  refine ⟨?_, fun s => ?_⟩
  · simp only [hstep]
    split
    · simp [drawGen, hik]
    · rfl
  · simp only [hstep]
    split
    · split
      · simp [drawGen, hik]
      · rfl
    · rfl

-- Non-vacuity: two adjacent modules, one with its base below the range start.
example : NonOverlap [⟨0x1000, 0x2000, 0x800, 0, .none⟩, ⟨0x2000, 0x2001, 0x2000, 0, .none⟩] := by
  refine ⟨by simp, ?_⟩
  intro m hm
  simp at hm
  rcases hm with rfl | rfl <;> decide

end FH
