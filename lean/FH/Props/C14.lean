import FH.AnaLemmas
import FH.World
import FH.RuleLemmas
import FH.PeMem
/-!
# C14 — Corrupt or hostile unwind data never panics framehop's own code

What the model can carry: every Rust panic site of framehop's own code that the model
contains is an explicit outcome (`Option.none` for the `split_at` of the instruction
analysers, `Plan.panic`, `Out.panic`, `GenOut.panic`), and the theorems below show that
none of them is reachable from the module data, whatever that data is - the data of a module
is universally quantified (`UnwindData` with arbitrary function tables, opcodes, text bytes,
ranges, FDEs and rows), so "corrupt" is included:

* the analysers are total whenever `pc ≤ text.length`;
* the compact-unwind dispatch always hands the analysers a function slice that contains the
  lookup offset, for *arbitrary* (unsorted, overlapping, inverted, out-of-text) function
  tables and text ranges - hence no panic;
* the plan (what is decided before registers are consulted) is never `panic`, for every
  module and address, on both architectures;
* a whole `unwind_frame` call panics only inside the PE operation interpreter, whose
  arithmetic is pe-unwind-info's `resolve_operation` (third-party; known finding F8-dep under
  C09); on aarch64 never.

What the model cannot carry: the byte-level parsers are third-party crates (gimli,
macho-unwind-info, pe-unwind-info) and framehop's glue around them (section slicing, index
construction) is exercised by the `mut` engine: byte-level corruption of generated and real
sections of every format and inconsistent ranges, under `catch_unwind` with overflow checks,
with panics attributed to own code or dependency by their source location.
-/
namespace FH

/-- The x86-64 analysers do not panic when the offset lies within the bytes. -/
theorem C14_anaX64_total (text : List Nat) (pc : Nat) (h : pc ≤ text.length) :
    ∃ r, anaX64 text pc = some r := by
  have h' : ¬ pc > text.length := by omega
  simp only [anaX64, anaPrologueX64, anaEpilogueX64, h', if_false]
  by_cases hn : nextExpectedInPrologueX64 (List.drop pc text) = true
  · simp only [hn, Bool.not_true, Bool.false_eq_true, if_false]
    cases prologueScanX64 ((List.take pc text).length + 1) (List.take pc text).reverse 0 with
    | none => exact ⟨_, rfl⟩
    | some r => exact ⟨_, rfl⟩
  · simp only [Bool.not_eq_true] at hn
    simp only [hn, Bool.not_false, if_true]
    exact ⟨_, rfl⟩

theorem anaPrologueA64_total (text : List Nat) (pc : Nat) (h : pc ≤ text.length) :
    ∃ r, anaPrologueA64 text pc = some r := by
  fun_cases anaPrologueA64 text pc
  case case1 => omega
  all_goals exact ⟨_, rfl⟩

theorem anaEpilogueA64_total (text : List Nat) (pc : Nat) (h : pc ≤ text.length) :
    ∃ r, anaEpilogueA64 text pc = some r := by
  fun_cases anaEpilogueA64 text pc
  case case1 => omega
  all_goals exact ⟨_, rfl⟩

/-- The aarch64 analysers do not panic when the offset lies within the bytes. -/
theorem C14_anaA64_total (text : List Nat) (pc : Nat) (h : pc ≤ text.length) :
    ∃ r, anaA64 text pc = some r := by
  obtain ⟨r, hr⟩ := anaPrologueA64_total text pc h
  obtain ⟨e, he⟩ := anaEpilogueA64_total text pc h
  simp only [anaA64, hr]
  cases r with
  | none => exact ⟨_, he⟩
  | some _ => exact ⟨_, rfl⟩

/-- The slice handed to the architecture contains the lookup offset. -/
theorem fnBytes_contains_offset (bytes : List Nat) (textOff start stop rel : Nat)
    (h1 : textOff ≤ start) (h3 : stop - textOff ≤ bytes.length)
    (hin : start ≤ rel ∧ rel < stop) :
    rel - start ≤ ((bytes.drop (start - textOff)).take (stop - start)).length := by
  rw [List.length_take, List.length_drop]
  exact Nat.le_min.mpr ⟨by omega, by omega⟩

/-- The opcode handler panics only where instruction analysis does. -/
theorem cuiUnwindX64_isSome (op : CuiOpX64) (first : Bool) (off : Nat) (fb : Option (List Nat))
    (h : ∀ b, fb = some b → off ≤ b.length) : (cuiUnwindX64 op first off fb).isSome = true := by
  fun_cases cuiUnwindX64 op first off fb
  case case1 _ b hn => obtain ⟨r, hr⟩ := C14_anaX64_total b off (h b rfl); cases hn.symm.trans hr
  all_goals rfl

theorem cuiUnwindA64_isSome (op : CuiOpA64) (first : Bool) (off : Nat) (fb : Option (List Nat))
    (h : ∀ b, fb = some b → off ≤ b.length) : (cuiUnwindA64 op first off fb).isSome = true := by
  fun_cases cuiUnwindA64 op first off fb
  case case2 _ _ b hn => obtain ⟨r, hr⟩ := C14_anaA64_total b off (h b rfl); cases hn.symm.trans hr
  all_goals rfl

/-- The dispatch never panics if the architecture's handler does not panic on slices that
contain the offset - for arbitrary tables, ranges and text. -/
theorem cuiDispatch_isSome {Op Rule : Type} (d : CuiData Op)
    (unwindFn : Op → Bool → Nat → Option (List Nat) → Option (CuiRes Rule))
    (stubRule fnStartRule : Rule) (stubHelperRule : Nat → Rule) (rel : Nat) (first : Bool)
    (hfn : ∀ op first off fb, (∀ b, fb = some b → off ≤ b.length) →
      (unwindFn op first off fb).isSome = true) :
    (cuiDispatch d unwindFn stubRule fnStartRule stubHelperRule rel first).isSome = true := by
  fun_cases cuiDispatch d unwindFn stubRule fnStartRule stubHelperRule rel first
  case case8 f hl _ fnBytes =>
    -- the slice handed on contains the offset, whatever the table and the text range
    have hin : f.start ≤ rel ∧ rel < f.stop := by simpa using List.find?_some hl
    apply hfn
    intro b hb
    simp only [fnBytes] at hb
    split at hb
    · cases hb
    · split at hb
      · rename_i hc; cases hb; exact fnBytes_contains_offset _ _ _ _ rel hc.1 hc.2.2.2 hin
      · cases hb
  all_goals rfl

/-- **The x86-64 compact-unwind path never panics**, for arbitrary tables, ranges and text. -/
theorem C14_cui_x64_never_panics (d : CuiData (CuiOpX64 × CuiOpA64)) (rel : Nat) (first : Bool) :
    (archX64.cui d rel first).isSome = true :=
  cuiDispatch_isSome d _ _ _ _ rel first (fun op f o fb h => cuiUnwindX64_isSome op.1 f o fb h)

/-- **The aarch64 compact-unwind path never panics.** -/
theorem C14_cui_a64_never_panics (d : CuiData (CuiOpX64 × CuiOpA64)) (rel : Nat) (first : Bool) :
    (archA64.cui d rel first).isSome = true :=
  cuiDispatch_isSome d _ _ _ _ rel first (fun op f o fb h => cuiUnwindA64_isSome op.2 f o fb h)

/-- The plan panics only where the architecture's compact-unwind handler does. -/
theorem plan_ne_panic (A : Arch) (m : Module) (rel : Nat) (first : Bool)
    (hc : ∀ d, (A.cui d rel first).isSome = true) : plan A m rel first ≠ .panic := by
  fun_cases plan A m rel first
  case case2 d _ _ hn => have := hc d; rw [hn] at this; cases this
  case case8 => unfold planForFde; split <;> (try split) <;> simp
  all_goals simp

/-- **No module data makes the plan panic** (x86-64): whatever the tables, opcodes, text,
ranges, FDEs and rows. -/
theorem C14_plan_x64_never_panics (m : Module) (rel : Nat) (first : Bool) :
    plan archX64 m rel first ≠ .panic :=
  plan_ne_panic archX64 m rel first fun d => C14_cui_x64_never_panics d rel first

/-- **No module data makes the plan panic** (aarch64). -/
theorem C14_plan_a64_never_panics (m : Module) (rel : Nat) (first : Bool) :
    plan archA64 m rel first ≠ .panic :=
  plan_ne_panic archA64 m rel first fun d => C14_cui_a64_never_panics d rel first

/-- Non-vacuity: a table with an inverted entry, an entry outside the text and text shorter than
its range still gives a plan. -/
example :
    let d : CuiData (CuiOpX64 × CuiOpA64) :=
      { funcs := [{ start := 0x20, stop := 0x10, op := (.null, .null) },
                  { start := 0x1000, stop := 0x9000, op := (.framelessIndirect 200 7 [], .frameless 16) }],
        stubs := (5, 2), stubHelper := (0, 0), text := some (0x1004, [0x55, 0x48]) }
    (archX64.cui d 0x1005 true).isSome = true ∧ (archA64.cui d 0x8fff true).isSome = true := by
  decide


/-! ## PE: RVA -> section memory on inconsistent section descriptions

`memory_at_rva` is handed whatever RVA ranges and data lengths the module supplies - ranges that
are empty, inverted, larger than the data, overlapping each other. The model has no panic outcome
at all here; what has to be shown is that the slice it describes is always inside the data (the
Rust code slices with `data.get(offset..)`; a model answer outside the data would mean the
correspondence run compares against a result the Rust code cannot produce). -/

/-- Whatever the section description, a returned slice `data[off..]` lies inside the data, starts
at the byte the RVA addresses, and the RVA lies in the section's range. -/
theorem C14_pe_section_slice_is_within_data (s : Sect) (addr off len : Nat)
    (h : memAtRva s addr = some (off, len)) :
    off + len = s.len ∧ off = addr - s.start ∧ s.start ≤ addr ∧ addr < s.stop := by
  have := memAtRva_some h
  exact ⟨this.2.2.2, this.2.2.1, this.1, this.2.1⟩

/-- Empty and inverted ranges (`end <= start`) never yield memory; neither does an RVA whose
offset lies beyond the supplied data. -/
theorem C14_pe_degenerate_ranges_yield_nothing (s : Sect) (addr : Nat) :
    (s.stop ≤ s.start → memAtRva s addr = none) ∧
    (s.len < addr - s.start → memAtRva s addr = none) := by
  constructor
  · intro h
    unfold memAtRva
    have : ¬(s.start ≤ addr ∧ addr < s.stop) := by omega
    simp [this]
  · intro h
    unfold memAtRva
    split
    · simp only []
      have : ¬(addr - s.start ≤ s.len) := by omega
      simp [this]
    · rfl

/-- UNWIND_INFO is looked for in `.rdata` first and then in `.xdata`; a section that contains the
RVA but whose data is too short is passed over, it does not end the search. -/
theorem C14_pe_unwind_info_section_order (r x : Sect) (addr : Nat) :
    (∀ o l, memAtRva r addr = some (o, l) → unwindInfoMemAtRva (some r) (some x) addr = some (0, o, l)) ∧
    (memAtRva r addr = none → ∀ o l, memAtRva x addr = some (o, l) →
      unwindInfoMemAtRva (some r) (some x) addr = some (1, o, l)) ∧
    (memAtRva r addr = none → memAtRva x addr = none →
      unwindInfoMemAtRva (some r) (some x) addr = none) := by
  refine ⟨?_, ?_, ?_⟩
  · intro o l h; simp [unwindInfoMemAtRva, h]
  · intro h o l h2; simp [unwindInfoMemAtRva, h, h2]
  · intro h h2; simp [unwindInfoMemAtRva, h, h2]

example : memAtRva ⟨0x3000, 0x3100, 0x80⟩ 0x3080 = some (0x80, 0) ∧
    memAtRva ⟨0x3000, 0x3100, 0x80⟩ 0x3081 = none ∧
    unwindInfoMemAtRva (some ⟨0x3000, 0x3100, 0x80⟩) (some ⟨0x3080, 0x3200, 0x180⟩) 0x3081 =
      some (1, 1, 0x17f) := by decide

end FH
