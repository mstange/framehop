import FH.Props.C16
import FH.NoPanic
/-!
# C16 — stripping for a whole `unwind_frame` call (miss path), whatever produced the step
-/
namespace FH

/-- What the uncacheable DWARF path hands back on aarch64: the address it reports is the `lr` it
leaves in the register set, that `lr` is stripped with the caller's mask, and the mask is kept. -/
theorem genericA64_strips {row : Row} {first : Bool} {regs g : RegsA64} {mem : Mem} {ra : Nat}
    (hs : Stripped regs.mask regs.lr) (h : genericA64 row first regs mem = .ok ra g) :
    g.mask = regs.mask ∧ Stripped g.mask g.lr ∧ (ra ≠ 0 → ra = g.lr) := by
  unfold genericA64 at h
  split at h
  · injection h with h1 h2
    subst h2
    exact ⟨rfl, hs, fun hne => absurd h1.symm hne⟩
  · split at h
    · cases h
    · rename_i cfa _
      simp only [] at h
      split at h
      · split at h
        · cases h
        · split at h
          · cases h
          · split at h
            · cases h
            · injection h with h1 h2
              subst h2
              exact ⟨rfl, strip_stripped _ _, fun _ => h1.symm⟩
      · injection h with h1 h2
        subst h2
        exact ⟨rfl, strip_stripped _ _, fun _ => h1.symm⟩

/-- **aarch64, any module data, any path, first frame or not**: whatever frame a cache-missing
`unwind_frame` reports has no bits outside the caller's mask, is the `lr` left in the register
set, and the register set still carries the caller's mask (so every later step strips too). -/
theorem C16_unwind_frame_strips (u : Unw) (hu : u.WF) (addr : FrameAddr) (regs regs' : RegsA64)
    (mem : Mem) (ra : Nat) (hs : Stripped regs.mask regs.lr)
    (h : (missPath archA64 u addr regs mem).2 = .ret (.frame ra) regs') :
    Stripped regs.mask ra ∧ regs'.lr = ra ∧ regs'.mask = regs.mask := by
  rcases (missPath_out (plansAll_a64 hu) addr regs mem).frame h with
    ⟨r, hw, he⟩ | ⟨hne, ⟨row, hg⟩ | ⟨p, hg⟩⟩
  · have f := execA64_frame he
    exact ⟨f.stripped, f.lr_eq, f.mask_eq⟩
  · obtain ⟨hmask, hlr, hra⟩ := genericA64_strips hs hg
    rw [hra hne, ← hmask]
    exact ⟨hlr, rfl, rfl⟩
  · cases hg

end FH
