import FH.DwarfSpec
import FH.Hist
/-!
# C04 — Frame-pointer fallback and leaf assumption when no unwind info applies
-/
namespace FH

/-- The platform frame-pointer convention: return address at `[fp+8]`, caller's frame pointer
at `[fp]`, caller's stack pointer `fp+16`. -/
def fpConvention (fp : Nat) (mem : Mem) : Option (Nat × Nat × Nat) :=
  match mem (fp + 8), mem fp with
  | some ra, some fp' => some (ra, fp + 16, fp')
  | _, _ => none

theorem fpConvention_some {fp : Nat} {mem : Mem} {ra sp' fp' : Nat}
    (h : fpConvention fp mem = some (ra, sp', fp')) :
    mem (fp + 8) = some ra ∧ sp' = fp + 16 ∧ mem fp = some fp' := by
  unfold fpConvention at h
  split at h <;> cases h
  exact ⟨‹_›, rfl, ‹_›⟩

/-! ## Which rule is used when no unwind information applies -/

/-- Address in no registered module: the fallback (frame pointer) rule, first frame or not. -/
theorem C04_no_module_uses_fallback (A : Arch) (u : Unw) (addr : FrameAddr) (regs : A.Regs)
    (mem : Mem) (h : findModule u.mods addr.lookup = none) :
    missPath A u addr regs mem =
      (some A.fallback, A.exec A.fallback (!addr.isReturn) regs mem) := by
  rw [missPath_eq, planAt_of_none h]
  rfl

/-- Module without (usable) unwind sections, or whose index cannot be built, or whose table
lookup fails: the fallback rule. -/
theorem C04_no_unwind_data_uses_fallback (A : Arch) (u : Unw) (addr : FrameAddr) (regs : A.Regs)
    (mem : Mem) (i rel : Nat) (m : Module) (hf : findModule u.mods addr.lookup = some (i, rel))
    (hm : u.mods[i]? = some m)
    (hd : m.data = .none ∨ ∃ pres fdes, m.data = .dwarf pres fdes ∧
      (dwarfLookup pres fdes m.baseSvma rel = .noData ∨
       dwarfLookup pres fdes m.baseSvma rel = .failed)) :
    missPath A u addr regs mem =
      (some A.fallback, A.exec A.fallback (!addr.isReturn) regs mem) := by
  have hp : plan A m rel (!addr.isReturn) = .staticErr := by
    rcases hd with hd | ⟨pres, fdes, hd, hl | hl⟩ <;> simp only [plan, *]
  exact missPath_of_plan hf hm hp regs mem

/-- Address inside a DWARF module but covered by no FDE: the architecture's
"uncovered" rule (leaf in the first frame, frame pointer otherwise). -/
theorem C04_uncovered_uses_leaf_or_fp (A : Arch) (u : Unw) (addr : FrameAddr) (regs : A.Regs)
    (mem : Mem) (i rel : Nat) (m : Module) (pres : Pres) (fdes : List Fde)
    (hf : findModule u.mods addr.lookup = some (i, rel)) (hm : u.mods[i]? = some m)
    (hd : m.data = .dwarf pres fdes) (hl : dwarfLookup pres fdes m.baseSvma rel = .uncovered) :
    missPath A u addr regs mem =
      (some A.uncovered, A.exec A.uncovered (!addr.isReturn) regs mem) := by
  have hp : plan A m rel (!addr.isReturn) = .exec A.uncovered := by simp only [plan, hd, hl]
  exact missPath_of_plan hf hm hp regs mem

/-! ## What those rules do -/

/-- x86-64 frame pointer rule = the convention (given framehop's sanity checks: the frame
pointer is not null, the new stack pointer fits and lies above the old one, the return
address is not null). -/
theorem C04_x64_fp_rule_is_convention (first : Bool) (regs : RegsX64) (mem : Mem)
    (ra sp' bp' : Nat) (hc : fpConvention regs.bp mem = some (ra, sp', bp'))
    (h0 : regs.bp ≠ 0) (hlt : regs.bp + 16 < U64) (hgt : regs.sp < regs.bp + 16) (hra : ra ≠ 0) :
    execX64 .useFramePointer first regs mem = .ret (.frame ra) (afterX64 regs ra sp' bp') := by
  obtain ⟨h8, rfl, hb⟩ := fpConvention_some hc
  exact (fpStepX64_eq h0 hlt hgt hb).trans
    (finishX64_ok (by omega) (by simpa using h8) hra (by omega))

/-- x86-64, uncovered address: a first frame is a frameless leaf (return address on top of the
stack); a caller frame follows the frame pointer convention. -/
theorem C04_x64_uncovered_first_frame_is_leaf (regs : RegsX64) (mem : Mem) (ra : Nat)
    (hr : mem regs.sp = some ra) (hlt : regs.sp + 8 < U64) (hra : ra ≠ 0) :
    execX64 .justReturnIfFirstFrameOtherwiseFp true regs mem =
      .ret (.frame ra) (afterX64 regs ra (regs.sp + 8) regs.bp) := by
  simp only [execX64, if_true, cadd_eq_some hlt]
  apply finishX64_ok (by omega) (by simpa using hr) hra
  intro ⟨e, _⟩; omega

theorem C04_x64_uncovered_caller_frame_is_fp_rule (regs : RegsX64) (mem : Mem) :
    execX64 .justReturnIfFirstFrameOtherwiseFp false regs mem =
      execX64 .useFramePointer false regs mem := by
  simp [execX64]

/-- aarch64 frame pointer rule = the convention (sanity checks: restored frame pointer not
null and above the current one, new stack pointer above the old one). -/
theorem C04_a64_fp_rule_is_convention (first : Bool) (regs : RegsA64) (mem : Mem)
    (lr' sp' fp' : Nat) (hc : fpConvention regs.fp mem = some (lr', sp', fp'))
    (hlt : regs.fp + 16 < U64) (h0 : fp' ≠ 0) (hfp : regs.fp < fp') (hsp : regs.sp < regs.fp + 16)
    (hra : strip regs.mask lr' ≠ 0) :
    execA64 .useFramePointer first regs mem =
      .ret (.frame (strip regs.mask lr')) (afterA64 regs lr' sp' fp') := by
  obtain ⟨h8, rfl, hb⟩ := fpConvention_some hc
  exact (execA64_useFramePointer hlt h8 hb h0 hfp hsp).trans (finishA64_ok hra (by omega))

/-- aarch64, uncovered address, first frame: frameless leaf, the return address is `lr`. -/
theorem C04_a64_uncovered_first_frame_is_leaf (regs : RegsA64) (mem : Mem)
    (hra : strip regs.mask regs.lr ≠ 0) :
    execA64 .noOpIfFirstFrameOtherwiseFp true regs mem =
      .ret (.frame (strip regs.mask regs.lr)) (afterA64 regs regs.lr regs.sp regs.fp) := by
  simp only [execA64, if_true]
  exact finishA64_ok hra (by intro h; cases h)

/-- aarch64, uncovered address, caller frame: the frame pointer convention. -/
theorem C04_a64_uncovered_caller_frame_is_convention (regs : RegsA64) (mem : Mem)
    (lr' sp' fp' : Nat) (hc : fpConvention regs.fp mem = some (lr', sp', fp'))
    (hlt : regs.fp + 16 < U64) (h0 : fp' ≠ 0) (hsp : regs.sp < regs.fp + 16)
    (hra : strip regs.mask lr' ≠ 0) :
    execA64 .noOpIfFirstFrameOtherwiseFp false regs mem =
      .ret (.frame (strip regs.mask lr')) (afterA64 regs lr' sp' fp') := by
  obtain ⟨h8, rfl, hb⟩ := fpConvention_some hc
  exact (execA64_noOpOtherwiseFp_caller hlt h8 hb h0 hsp).trans (finishA64_ok hra (by omega))

/-! ## End of a frame pointer chain -/

/-- A null frame pointer (x86-64: the frame's own rbp; aarch64: the restored fp) or a null
return address completes the walk with `Ok(None)`. -/
theorem C04_x64_null_fp_ends_chain (first : Bool) (regs : RegsX64) (mem : Mem) (h : regs.bp = 0) :
    execX64 .useFramePointer first regs mem = .ret .done regs ∧
    execX64 .justReturnIfFirstFrameOtherwiseFp false regs mem = .ret .done regs := by
  simp [execX64, fpStepX64, h]

theorem C04_a64_null_fp_ends_chain (first : Bool) (regs : RegsA64) (mem : Mem) (l : Nat)
    (hlt : regs.fp + 16 < U64) (h8 : mem (regs.fp + 8) = some l) (hb : mem regs.fp = some 0) :
    execA64 .useFramePointer first regs mem = .ret .done regs ∧
    execA64 .noOpIfFirstFrameOtherwiseFp false regs mem = .ret .done regs := by
  have h2 : regs.fp + 8 < U64 := by omega
  constructor <;> simp [execA64, cadd_eq_some hlt, uaddP, h2, h8, hb]

theorem C04_x64_null_return_address_ends_chain (first : Bool) (regs : RegsX64) (mem : Mem) (b : Nat)
    (h0 : regs.bp ≠ 0) (hlt : regs.bp + 16 < U64) (hgt : regs.sp < regs.bp + 16)
    (hb : mem regs.bp = some b) (h8 : mem (regs.bp + 8) = some 0) :
    execX64 .useFramePointer first regs mem = .ret .done regs := by
  have h1 : ¬ regs.bp + 16 < 8 := by omega
  have h2 : regs.bp + 16 - 8 = regs.bp + 8 := by omega
  exact (fpStepX64_eq h0 hlt hgt hb).trans (by simp [finishX64, h1, h2, h8])

/-! ## Whole chains (x86-64) -/

/-- A well-formed chain of frame records starting at frame pointer `fp` with stack pointer
`sp`: each record is readable, lies above the previous stack pointer and holds a non-null
return address; the chain ends with a null frame pointer. -/
inductive FpChain (mem : Mem) : Nat → Nat → List Nat → Prop where
  | nil (sp : Nat) : FpChain mem sp 0 []
  | cons (sp fp fp' ra : Nat) (rest : List Nat) (h0 : fp ≠ 0) (hlt : fp + 16 < U64)
      (hgt : sp < fp + 16) (hb : mem fp = some fp') (h8 : mem (fp + 8) = some ra) (hra : ra ≠ 0)
      (tail : FpChain mem (fp + 16) fp' rest) : FpChain mem sp fp (ra :: rest)

/-- Repeated frame pointer steps (caller-frame mode), at most `n`. -/
def fpWalkX64 (mem : Mem) : Nat → RegsX64 → List Res
  | 0, _ => []
  | n + 1, regs =>
    match execX64 .useFramePointer false regs mem with
    | .ret (.frame ra) regs' => .frame ra :: fpWalkX64 mem n regs'
    | .ret r _ => [r]
    | .panic _ => []

/-- Walking a well-formed frame pointer chain yields exactly the records' return addresses
and completes with `Ok(None)`, whatever its length, spacing or alignment. -/
theorem C04_x64_fp_chain_walk (mem : Mem) (sp fp : Nat) (ras : List Nat)
    (h : FpChain mem sp fp ras) (regs : RegsX64) (hsp : regs.sp = sp) (hbp : regs.bp = fp) :
    fpWalkX64 mem (ras.length + 1) regs = ras.map .frame ++ [.done] := by
  induction h generalizing regs with
  | nil sp =>
    simp only [List.length_nil, fpWalkX64]
    rw [(C04_x64_null_fp_ends_chain false regs mem hbp).1]
    rfl
  | cons sp fp fp' ra rest h0 hlt hgt hb h8 hra tail ih =>
    subst hsp hbp
    have step : execX64 .useFramePointer false regs mem = _ := (fpStepX64_eq h0 hlt hgt hb).trans
      (finishX64_ok (by omega) (by simpa using h8) hra (by omega))
    simp only [List.length_cons, fpWalkX64, step, List.map_cons, List.cons_append]
    congr 1
    exact ih _ rfl rfl

-- Non-vacuity: a two-record chain.
example :
    let mem : Mem := fun a =>
      if a = 0x100 then some 0x200 else if a = 0x108 then some 0xaaa else
      if a = 0x200 then some 0 else if a = 0x208 then some 0xbbb else none
    FpChain mem 0x50 0x100 [0xaaa, 0xbbb] := by
  intro mem
  refine .cons _ _ 0x200 _ _ (by decide) (by decide) (by decide) (by decide) (by decide) (by decide) ?_
  refine .cons _ _ 0 _ _ (by decide) (by decide) (by decide) (by decide) (by decide) (by decide) ?_
  exact .nil _

/-! ## Whole chains (aarch64) -/

/-- A well-formed chain of frame records on aarch64. The walk ends at the record whose saved
frame pointer is null; framehop does not report that record's return address (the outermost
frame's caller does not exist). -/
inductive FpChainA64 (mem : Mem) (mask : Nat) : Nat → Nat → List Nat → Prop where
  | last (sp fp l : Nat) (hlt : fp + 16 < U64) (h8 : mem (fp + 8) = some l) (hb : mem fp = some 0) :
      FpChainA64 mem mask sp fp []
  | cons (sp fp fp' lr' : Nat) (rest : List Nat) (hlt : fp + 16 < U64) (hb : mem fp = some fp')
      (h8 : mem (fp + 8) = some lr') (h0 : fp' ≠ 0) (hfp : fp < fp') (hsp : sp < fp + 16)
      (hra : strip mask lr' ≠ 0) (tail : FpChainA64 mem mask (fp + 16) fp' rest) :
      FpChainA64 mem mask sp fp (strip mask lr' :: rest)

def fpWalkA64 (mem : Mem) : Nat → RegsA64 → List Res
  | 0, _ => []
  | n + 1, regs =>
    match execA64 .useFramePointer false regs mem with
    | .ret (.frame ra) regs' => .frame ra :: fpWalkA64 mem n regs'
    | .ret r _ => [r]
    | .panic _ => []

/-- Walking a well-formed aarch64 frame record chain yields exactly the (stripped) return
addresses of its records and completes with `Ok(None)`. -/
theorem C04_a64_fp_chain_walk (mem : Mem) (mask sp fp : Nat) (ras : List Nat)
    (h : FpChainA64 mem mask sp fp ras) (regs : RegsA64) (hm : regs.mask = mask)
    (hsp : regs.sp = sp) (hfp : regs.fp = fp) :
    fpWalkA64 mem (ras.length + 1) regs = ras.map .frame ++ [.done] := by
  induction h generalizing regs with
  | last sp fp l hlt h8 hb =>
    simp only [List.length_nil, fpWalkA64]
    rw [(C04_a64_null_fp_ends_chain false regs mem l (by rw [hfp]; exact hlt)
      (by rw [hfp]; exact h8) (by rw [hfp]; exact hb)).1]
    rfl
  | cons sp fp fp' lr' rest hlt hb h8 h0 hfp' hsp' hra tail ih =>
    subst hm hsp hfp
    have step := (execA64_useFramePointer (first := false) hlt h8 hb h0 hfp' hsp').trans
      (finishA64_ok hra (by omega))
    simp only [List.length_cons, fpWalkA64, step, List.map_cons, List.cons_append]
    congr 1
    exact ih _ rfl rfl rfl

end FH
