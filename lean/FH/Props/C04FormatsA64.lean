import FH.Props.C04Formats
/-!
# C04 — Mach-O on aarch64: addresses `__unwind_info` has no entry for
-/
namespace FH

/-- Mach-O, aarch64: an address outside `__stubs` / `__stub_helper` without an entry is a leaf in
the first frame (return address in lr: `NoOp`) and uses the frame pointer rule as a caller frame. -/
theorem C04_macho_a64_no_entry (u : Unw) (addr : FrameAddr) (regs : RegsA64) (mem : Mem) (i rel : Nat)
    (m : Module) (d : CuiData (CuiOpX64 × CuiOpA64)) (eh : Option (List (Nat × Fde)))
    (hf : findModule u.mods addr.lookup = some (i, rel)) (hm : u.mods[i]? = some m)
    (hd : m.data = .macho d eh)
    (hs : ¬ (d.stubs.1 ≤ rel ∧ rel < d.stubs.2)) (hh : ¬ (d.stubHelper.1 ≤ rel ∧ rel < d.stubHelper.2))
    (hl : cuiLookup d.funcs rel = none) :
    missPath archA64 u addr regs mem =
      if addr.isReturn then (some RuleA64.useFramePointer, execA64 .useFramePointer false regs mem)
      else (some RuleA64.noOp, execA64 .noOp true regs mem) := by
  have hc := C02_outside_every_function d (fun op => cuiUnwindA64 op.2) RuleA64.noOp
    RuleA64.noOp stubHelperRuleA64 rel hs hh hl
  cases hr : addr.isReturn with
  | true =>
    have hp : plan archA64 m rel (!addr.isReturn) = .staticErr := by
      simp only [plan, hd, archA64, hr, Bool.not_true, hc.2]
    refine (missPath_of_plan hf hm hp regs mem).trans ?_
    rw [hr]; rfl
  | false =>
    have hp : plan archA64 m rel (!addr.isReturn) = .exec RuleA64.noOp := by
      simp only [plan, hd, archA64, hr, Bool.not_false, hc.1]
    refine (missPath_of_plan hf hm hp regs mem).trans ?_
    rw [hr]; rfl

end FH
