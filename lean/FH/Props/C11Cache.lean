import FH.Props.C11Path
/-!
# C11 — an end of stack found on an uncacheable path leaves no trace in the rule cache

A null return address recovered by the generic DWARF evaluation or by the PE interpreter is a
fact about *this thread's stack*, not about the code address: nothing may be cached for it, so
that the next walk through the same address is decided by its own stack (seeded change C11-13
cached an `EndOfStack` rule there). In the model - and, through the correspondence and the
`end-of-stack-reported-without-a-root-marker` oracle, in the implementation - the rule table
changes only when the miss path hands back a rule.
-/
namespace FH

/-- A call whose miss path produces no rule (every uncacheable outcome: generic DWARF and PE
steps - whether they found a frame, a null return address or failed - and panics) leaves the
rule table exactly as it was. -/
theorem C11_uncacheable_outcomes_are_not_cached (A : Arch) (N : Nat) (u : Unw) (c : Cache A.Rule)
    (addr : FrameAddr) (regs : A.Regs) (mem : Mem)
    (hmiss : (c.lookup N addr.lookup u.gen).2 = .miss)
    (hnone : (missPath A u addr regs mem).1 = none) :
    (unwindFrame A N u c addr regs mem).1.slots = c.slots := by
  rw [unwindFrame_miss hmiss, hnone]
  exact lookup_slots N c addr.lookup u.gen

/-- The generic path never hands back a rule - in particular not when it found the end of the
stack (`ra = 0`). -/
theorem C11_generic_step_hands_back_no_rule (A : Arch) (u : Unw) (addr : FrameAddr)
    (regs : A.Regs) (mem : Mem) (i rel : Nat) (m : Module) (row : Row)
    (hf : findModule u.mods addr.lookup = some (i, rel)) (hm : u.mods[i]? = some m)
    (hp : plan A m rel (!addr.isReturn) = .generic row) :
    (missPath A u addr regs mem).1 = none := by
  rw [missPath_of_plan hf hm hp, runPlan_fst]
  rfl

/-- Likewise the interpreted PE path. -/
theorem C11_pe_step_hands_back_no_rule (A : Arch) (u : Unw) (addr : FrameAddr)
    (regs : A.Regs) (mem : Mem) (i rel : Nat) (m : Module) (p : PePlan)
    (hf : findModule u.mods addr.lookup = some (i, rel)) (hm : u.mods[i]? = some m)
    (hp : plan A m rel (!addr.isReturn) = .pe p) :
    (missPath A u addr regs mem).1 = none := by
  rw [missPath_of_plan hf hm hp, runPlan_fst]
  rfl

-- Non-vacuity: the premise "miss" holds for the empty cache, for every address and identity.
example (a g : Nat) : ((Cache.empty : Cache RuleX64).lookup 509 a g).2 = .miss := rfl

end FH
