import FH.Props.C02
import FH.Props.C04
/-!
# C04 — the decision table for Mach-O and PE modules (whole `unwind_frame` miss path)
-/
namespace FH
/-- Mach-O, x86-64: an address outside `__stubs` / `__stub_helper` that `__unwind_info` has no
entry for is a frameless leaf in the first frame (return address on top of the stack) and falls
back to the frame pointer rule as a caller frame. -/
theorem C04_macho_x64_no_entry (u : Unw) (addr : FrameAddr) (regs : RegsX64) (mem : Mem) (i rel : Nat)
    (m : Module) (d : CuiData (CuiOpX64 × CuiOpA64)) (eh : Option (List (Nat × Fde)))
    (hf : findModule u.mods addr.lookup = some (i, rel)) (hm : u.mods[i]? = some m)
    (hd : m.data = .macho d eh)
    (hs : ¬ (d.stubs.1 ≤ rel ∧ rel < d.stubs.2)) (hh : ¬ (d.stubHelper.1 ≤ rel ∧ rel < d.stubHelper.2))
    (hl : cuiLookup d.funcs rel = none) :
    missPath archX64 u addr regs mem =
      if addr.isReturn then (some RuleX64.useFramePointer, execX64 .useFramePointer false regs mem)
      else (some RuleX64.justReturn, execX64 .justReturn true regs mem) := by
  have hc := C02_outside_every_function d (fun op => cuiUnwindX64 op.1) RuleX64.justReturn
    RuleX64.justReturn stubHelperRuleX64 rel hs hh hl
  cases hr : addr.isReturn with
  | true =>
    have hp : plan archX64 m rel (!addr.isReturn) = .staticErr := by
      simp only [plan, hd, archX64, hr, Bool.not_true, hc.2]
    refine (missPath_of_plan hf hm hp regs mem).trans ?_
    rw [hr]; rfl
  | false =>
    have hp : plan archX64 m rel (!addr.isReturn) = .exec RuleX64.justReturn := by
      simp only [plan, hd, archX64, hr, Bool.not_false, hc.1]
    refine (missPath_of_plan hf hm hp regs mem).trans ?_
    rw [hr]; rfl

/-- PE, x86-64: any frame whose address has no function table entry is a frameless leaf
(the PE convention), first frame or not. -/
theorem C04_pe_no_table_entry_is_leaf (u : Unw) (addr : FrameAddr) (regs : RegsX64) (mem : Mem)
    (i rel : Nat) (m : Module) (funcs : List PeFunc)
    (hf : findModule u.mods addr.lookup = some (i, rel)) (hm : u.mods[i]? = some m)
    (hd : m.data = .pe funcs) (hl : peLookup funcs rel = none) :
    missPath archX64 u addr regs mem =
      (some RuleX64.justReturn, execX64 .justReturn (!addr.isReturn) regs mem) := by
  have hp : plan archX64 m rel (!addr.isReturn) = .exec RuleX64.justReturn := by
    simp [plan, hd, archX64, pePlan, hl]
  simp only [missPath, hf, hm, hp]
  rfl

/-- PE data in an aarch64 unwinder is unsupported: every frame of such a module uses the frame
pointer rule. -/
theorem C04_pe_on_aarch64_uses_fallback (u : Unw) (addr : FrameAddr) (regs : RegsA64) (mem : Mem)
    (i rel : Nat) (m : Module) (funcs : List PeFunc)
    (hf : findModule u.mods addr.lookup = some (i, rel)) (hm : u.mods[i]? = some m)
    (hd : m.data = .pe funcs) :
    missPath archA64 u addr regs mem =
      (some RuleA64.useFramePointer, execA64 .useFramePointer (!addr.isReturn) regs mem) := by
  have hp : plan archA64 m rel (!addr.isReturn) = .staticErr := by simp [plan, hd, archA64]
  simp only [missPath, hf, hm, hp]
  rfl

end FH
