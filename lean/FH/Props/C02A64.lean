import FH.Props.C02
/-!
# C02, arm64 half: the epilogue and prologue word scans against a machine model
-/
namespace FH
namespace A64

/-! ## Bit fields as division and remainder -/

theorem and3 (x : Nat) : x &&& 3 = x % 4 := Nat.and_two_pow_sub_one_eq_mod x 2
theorem and31 (x : Nat) : x &&& 31 = x % 32 := Nat.and_two_pow_sub_one_eq_mod x 5
theorem and127 (x : Nat) : x &&& 127 = x % 128 := Nat.and_two_pow_sub_one_eq_mod x 7
theorem and4095 (x : Nat) : x &&& 4095 = x % 4096 := Nat.and_two_pow_sub_one_eq_mod x 12

/-! A test of an analyser that looks only at bits `k` and above of `w` is decided by `w >>> k`. -/
section top
variable {w hi k : Nat} (h : w >>> k = hi)
include h

theorem shr_top (j : Nat) : w >>> (k + j) = hi >>> j := by rw [Nat.shiftRight_add, h]

theorem eq_false_top (c : Nat) (hc : (c >>> k == hi) = false) : (w = c) = False := by
  simp only [eq_iff_iff, iff_false]
  rintro rfl
  simp [h] at hc

theorem and_eq_false_top (m c : Nat) (hc : (hi &&& m >>> k == c >>> k) = false) :
    (w &&& m = c) = False := by
  simp only [eq_iff_iff, iff_false]
  intro e
  rw [← e, Nat.shiftRight_and_distrib, h] at hc
  simp at hc
end top

/-- A word with a 10-bit `hi` is a 32-bit word. -/
theorem lt_of_top {w hi : Nat} (h : w >>> 22 = hi) (hhi : hi < 1024) : w < 4294967296 := by
  rw [Nat.shiftRight_eq_div_pow] at h; omega

inductive LdpMode where
  | off | post | pre
  deriving DecidableEq, Repr

/-- Bits 31..22 of `ldp Xt, Xt2, [sp…]` (64-bit, load): `10 101 0 0mm 1`. -/
def LdpMode.hi : LdpMode → Nat
  | .off => 0b1010100101
  | .post => 0b1010100011
  | .pre => 0b1010100111

def ldpWord (hi rt rt2 imm7 : Nat) : Nat :=
  hi * 4194304 + imm7 * 32768 + rt2 * 1024 + 31 * 32 + rt

theorem ldpWord_fields (hi rt rt2 i : Nat) (h1 : rt < 32) (h2 : rt2 < 32) (h3 : i < 128) :
    ldpWord hi rt rt2 i >>> 22 = hi ∧
    (ldpWord hi rt rt2 i >>> 5) &&& 31 = 31 ∧ (ldpWord hi rt rt2 i >>> 15) &&& 127 = i ∧
    ldpWord hi rt rt2 i &&& 31 = rt ∧ (ldpWord hi rt rt2 i >>> 10) &&& 31 = rt2 := by
  simp only [and31, and127, Nat.shiftRight_eq_div_pow, ldpWord]
  refine ⟨?_, ?_, ?_, ?_, ?_⟩ <;> omega

/-- `hi[31:22] imm12[21:10] 11111 rd[4:0]`: add/sub (immediate) with `Rn = sp`. -/
def immWord (hi i rd : Nat) : Nat := hi * 4194304 + i * 1024 + 31 * 32 + rd

theorem immWord_fields (hi i rd : Nat) (h1 : i < 4096) (h2 : rd < 32) :
    immWord hi i rd >>> 22 = hi ∧ (immWord hi i rd >>> 10) &&& 4095 = i ∧
    (immWord hi i rd >>> 5) &&& 31 = 31 ∧ immWord hi i rd &&& 31 = rd := by
  simp only [and31, and4095, Nat.shiftRight_eq_div_pow, immWord]
  refine ⟨?_, ?_, ?_, ?_⟩ <;> omega

/-! ## Epilogue instructions, their encoding and what the CPU does -/

/-- Signed value of a 7-bit immediate field. -/
def sx7 (v : Nat) : Int := if v < 64 then (v : Int) else (v : Int) - 128

theorem imm7x8_ldpWord (hi rt rt2 i : Nat) (h1 : rt < 32) (h2 : rt2 < 32) (h3 : i < 128) :
    imm7x8 (ldpWord hi rt rt2 i) = sx7 i * 8 := by
  have h := (ldpWord_fields hi rt rt2 i h1 h2 h3).2.2.1
  simp only [imm7x8, h, sx7]
  split <;> rfl

inductive EpiInsn where
  /-- `ldp Xrt, Xrt2, [sp, #imm]` / `[sp], #imm` / `[sp, #imm]!` with `imm = sx7 imm7 * 8` -/
  | ldp (mode : LdpMode) (rt rt2 imm7 : Nat)
  /-- `add sp, sp, #imm12 {, lsl #12}` -/
  | addSp (imm12 : Nat) (lsl12 : Bool)
  deriving Repr

def EpiInsn.WF : EpiInsn → Prop
  | .ldp _ rt rt2 i => rt < 32 ∧ rt2 < 32 ∧ i < 128
  | .addSp i _ => i < 4096

def addSpWord (i : Nat) (sh : Bool) : Nat :=
  0b100100010 * 8388608 + (if sh then 4194304 else 0) + i * 1024 + 31 * 32 + 31

def EpiInsn.enc : EpiInsn → Nat
  | .ldp mode rt rt2 i => ldpWord mode.hi rt rt2 i
  | .addSp i sh => addSpWord i sh

def addImm (i : Nat) (sh : Bool) : Int := if sh then (i : Int) * 4096 else (i : Int)

theorem addSpWord_eq (i : Nat) (sh : Bool) : addSpWord i sh = immWord (if sh then 581 else 580) i 31 := by
  cases sh <;> rfl

/-- Bookkeeping of one register of an `ldp`. -/
def setOff (r : Nat) (loc : Int) (s : EpiState) : EpiState :=
  if r = 29 then { s with fpOff := some loc }
  else if r = 30 then { s with lrOff := some loc } else s

/-- The analyser's view of an instruction: offsets relative to the sp at the interruption
point. -/
def applyEff : EpiInsn → EpiState → EpiState
  | .ldp mode rt rt2 i, s =>
    let spPlus := s.spOff + sx7 i * 8
    let regLoc := if mode = .post then s.spOff else spPlus
    let s2 := setOff rt2 (regLoc + 8) (setOff rt regLoc s)
    if mode = .off then s2 else { s2 with spOff := spPlus }
  | .addSp i sh, s => { s with spOff := s.spOff + addImm i sh }

/-- No intermediate offset leaves the `i32` range (true of any real epilogue). -/
def EffFits : EpiInsn → EpiState → Prop
  | .ldp mode _ _ i, s =>
    inI32 (s.spOff + sx7 i * 8) = true ∧
    inI32 ((if mode = .post then s.spOff else s.spOff + sx7 i * 8) + 8) = true
  | .addSp i sh, s => inI32 (s.spOff + addImm i sh) = true

theorem epiStep_enc (ins : EpiInsn) (s : EpiState) (hwf : ins.WF) (hfit : EffFits ins s) :
    epiStep ins.enc s = .needMore (applyEff ins s) := by
  cases ins with
  | ldp mode rt rt2 i =>
    obtain ⟨h1, h2, h3⟩ := hwf
    obtain ⟨hf1, hf2⟩ := hfit
    obtain ⟨f22, frn, -, frt, frt2⟩ := ldpWord_fields mode.hi rt rt2 i h1 h2 h3
    have fimm := imm7x8_ldpWord mode.hi rt rt2 i h1 h2 h3
    cases mode <;> simp only [LdpMode.hi, EpiInsn.enc] at f22 frn frt frt2 fimm ⊢ <;>
      simp [epiStep, eq_false_top f22, and_eq_false_top f22, shr_top f22 1, shr_top f22 4, f22, frn, frt, frt2,
        fimm, applyEff, setOff, hf1] at hf2 ⊢ <;> exact hf2
  | addSp i sh =>
    have hi : i < 4096 := hwf
    have hf : inI32 (s.spOff + addImm i sh) = true := hfit
    simp only [EpiInsn.enc, addSpWord_eq]
    obtain ⟨f22, fi, frn, frd⟩ := immWord_fields (if sh then 581 else 580) i 31 hi (by omega)
    cases sh <;> simp only [if_true, if_false, Bool.false_eq_true] at f22 fi frn frd ⊢ <;>
      simp [epiStep, eq_false_top f22, and_eq_false_top f22, shr_top f22 1, shr_top f22 4, f22, fi, frn, frd,
        imm12, applyEff, addImm] at hf ⊢ <;> exact hf

theorem enc_lt (ins : EpiInsn) (hwf : ins.WF) : ins.enc < 4294967296 := by
  cases ins with
  | ldp mode rt rt2 i =>
    exact lt_of_top (ldpWord_fields mode.hi rt rt2 i hwf.1 hwf.2.1 hwf.2.2).1 (by cases mode <;> decide)
  | addSp i sh =>
    rw [EpiInsn.enc, addSpWord_eq]
    exact lt_of_top (immWord_fields _ i 31 hwf (by omega)).1 (by cases sh <;> decide)

/-! ## Words as little-endian bytes -/

def wordBytes (w : Nat) : List Nat := [w % 256, w / 256 % 256, w / 65536 % 256, w / 16777216 % 256]

def code (ws : List Nat) : List Nat := ws.flatMap wordBytes

theorem wordAt_wordBytes (w : Nat) (rest : List Nat) (hw : w < 4294967296) :
    wordAt (wordBytes w ++ rest) 0 = w := by
  simp [wordAt, wordBytes]
  omega

theorem code_cons (w : Nat) (ws : List Nat) : code (w :: ws) = wordBytes w ++ code ws := by
  simp [code]

theorem drop4_wordBytes (w : Nat) (rest : List Nat) : (wordBytes w ++ rest).drop 4 = rest := by
  simp [wordBytes]

theorem length_code (ws : List Nat) : (code ws).length = 4 * ws.length := by
  induction ws with
  | nil => simp [code]
  | cons w ws ih => rw [code_cons]; simp [wordBytes, ih]; omega

/-! ## The forward scan over any sequence of epilogue instructions -/

def FitsAll : List EpiInsn → EpiState → Prop
  | [], _ => True
  | i :: rest, s => EffFits i s ∧ FitsAll rest (applyEff i s)

def effAll (is : List EpiInsn) (s : EpiState) : EpiState := is.foldl (fun s i => applyEff i s) s

theorem epiLoop_needMore (f w : Nat) (bytes : List Nat) (s s' : EpiState)
    (h : epiStep w s = .needMore s') (hl : ¬ bytes.length < 4) :
    epiLoop (f + 1) w bytes s = epiLoop f (wordAt bytes 0) (bytes.drop 4) s' := by
  simp [epiLoop, h, hl]

theorem epiLoop_insns : ∀ (is : List EpiInsn) (s : EpiState) (fuel e : Nat) (rest : List Nat),
    (∀ i ∈ is, i.WF) → FitsAll is s → is.length < fuel → e < 4294967296 →
    epiLoop fuel (wordAt (code (is.map EpiInsn.enc ++ [e]) ++ rest) 0)
      ((code (is.map EpiInsn.enc ++ [e]) ++ rest).drop 4) s =
    epiLoop (fuel - is.length) e rest (effAll is s) := by
  intro is
  induction is with
  | nil =>
    intro s fuel e rest _ _ _ he
    simp only [List.map_nil, List.nil_append, code_cons, List.append_assoc, effAll, List.foldl_nil,
      List.length_nil, Nat.sub_zero]
    rw [wordAt_wordBytes _ _ he, drop4_wordBytes]
    simp [code]
  | cons i is ih =>
    intro s fuel e rest hwf hfit hfuel he
    obtain ⟨hf1, hf2⟩ := hfit
    have hwi : i.WF := hwf i (by simp)
    cases fuel with
    | zero => simp at hfuel
    | succ f =>
      simp only [List.map_cons, List.cons_append, code_cons, List.append_assoc]
      rw [wordAt_wordBytes _ _ (enc_lt i hwi), drop4_wordBytes]
      have hlen : ¬ ((code (List.map EpiInsn.enc is ++ [e]) ++ rest).length < 4) := by
        rw [List.length_append, length_code]; simp; omega
      rw [epiLoop_needMore _ _ _ _ _ (epiStep_enc i s hwi hf1) hlen]
      have := ih (applyEff i s) f e rest (fun j hj => hwf j (by simp [hj])) hf2
        (by simp at hfuel; omega) he
      rw [this]
      have e1 : f + 1 - (i :: is).length = f - is.length := by simp
      rw [e1]
      simp [effAll]

/-! ## What the CPU does -/

/-- The registers an unwinder cares about (sp as a mathematical integer). -/
structure M where
  sp : Int
  fp : Nat
  lr : Nat

def setRegM (r v : Nat) (m : M) : M :=
  if r = 29 then { m with fp := v } else if r = 30 then { m with lr := v } else m

/-- One epilogue instruction (Arm ARM: LDP post-index / pre-index / signed offset, 64-bit;
ADD (immediate) on sp). Registers other than x29/x30 are not tracked. -/
def stepM (mem : Mem) : EpiInsn → M → Option M
  | .ldp mode rt rt2 i, m =>
    let a := if mode = .post then m.sp else m.sp + sx7 i * 8
    match readAt mem a, readAt mem (a + 8) with
    | some v1, some v2 =>
      let m' := setRegM rt2 v2 (setRegM rt v1 m)
      some (if mode = .off then m' else { m' with sp := m.sp + sx7 i * 8 })
    | _, _ => none
  | .addSp i sh, m => some { m with sp := m.sp + addImm i sh }

def runM (mem : Mem) : List EpiInsn → M → Option M
  | [], m => some m
  | i :: rest, m =>
    match stepM mem i m with
    | some m' => runM mem rest m'
    | none => none

/-- The analyser's bookkeeping describes the machine state: offsets are relative to the sp
at the interruption point `sp0`; a recorded slot holds the register's current value. -/
def Rel (mem : Mem) (sp0 : Int) (fp0 lr0 : Nat) (s : EpiState) (m : M) : Prop :=
  m.sp = sp0 + s.spOff ∧
  (match s.fpOff with
    | none => m.fp = fp0
    | some f => readAt mem (sp0 + f) = some m.fp) ∧
  (match s.lrOff with
    | none => m.lr = lr0
    | some l => readAt mem (sp0 + l) = some m.lr)

variable {mem : Mem} {sp0 : Int} {fp0 lr0 : Nat} {s : EpiState} {m : M}

/-- Recording the slot a register was loaded from keeps the bookkeeping true. -/
theorem Rel.set (hr : Rel mem sp0 fp0 lr0 s m) (r : Nat) {v : Nat} {loc : Int}
    (hv : readAt mem (sp0 + loc) = some v) :
    Rel mem sp0 fp0 lr0 (setOff r loc s) (setRegM r v m) := by
  unfold setOff setRegM
  split
  · exact ⟨hr.1, hv, hr.2.2⟩
  · split
    · exact ⟨hr.1, hr.2.1, hv⟩
    · exact hr

theorem Rel.sp (hr : Rel mem sp0 fp0 lr0 s m) {off sp : Int} (h : sp = sp0 + off) :
    Rel mem sp0 fp0 lr0 { s with spOff := off } { m with sp := sp } :=
  ⟨h, hr.2.1, hr.2.2⟩

theorem rel_step (mem : Mem) (sp0 : Int) (fp0 lr0 : Nat) (i : EpiInsn) (s : EpiState) (m m' : M)
    (hr : Rel mem sp0 fp0 lr0 s m) (hs : stepM mem i m = some m') :
    Rel mem sp0 fp0 lr0 (applyEff i s) m' := by
  have hsp := hr.1
  cases i with
  | addSp i sh =>
    cases hs
    exact hr.sp (by omega)
  | ldp mode rt rt2 i =>
    simp only [stepM] at hs
    split at hs
    · rename_i v1 v2 hv1 hv2
      cases hs
      -- the address read is `sp0 +` the slot the analyser records
      have ha : (if mode = .post then m.sp else m.sp + sx7 i * 8) =
          sp0 + (if mode = .post then s.spOff else s.spOff + sx7 i * 8) := by
        split <;> omega
      rw [ha] at hv1 hv2
      rw [Int.add_assoc] at hv2
      have h2 := (hr.set rt hv1).set rt2 hv2
      simp only [applyEff]
      split
      · exact h2
      · exact h2.sp (by omega)
    · cases hs

theorem rel_run (mem : Mem) (sp0 : Int) (fp0 lr0 : Nat) : ∀ (is : List EpiInsn) (s : EpiState) (m m' : M),
    Rel mem sp0 fp0 lr0 s m → runM mem is m = some m' → Rel mem sp0 fp0 lr0 (effAll is s) m' := by
  intro is
  induction is with
  | nil => intro s m m' hr h; simp only [runM, Option.some.injEq] at h; subst h; simpa [effAll] using hr
  | cons i is ih =>
    intro s m m' hr h
    simp only [runM] at h
    split at h
    · rename_i m1 h1
      have := ih (applyEff i s) m1 m' (rel_step mem sp0 fp0 lr0 i s m m1 hr h1) h
      simpa [effAll] using this
    · cases h

/-! ## How the epilogue ends -/

inductive EpiEnd where
  | ret
  | retab
  /-- `b <imm26>`: tail call -/
  | b (imm26 : Nat)
  /-- `br Xn`: tail call through a register -/
  | br (rn : Nat)
  deriving Repr

def EpiEnd.WF : EpiEnd → Prop
  | .b i => i < 67108864
  | .br n => n < 32
  | _ => True

def EpiEnd.enc : EpiEnd → Nat
  | .ret => 0xd65f03c0
  | .retab => 0xd65f0fff
  | .b i => 5 * 67108864 + i
  | .br n => 0xd61f0000 + n * 32

def EpiEnd.isTail : EpiEnd → Bool
  | .b _ => true
  | .br _ => true
  | _ => false

theorem end_lt (e : EpiEnd) (h : e.WF) : e.enc < 4294967296 := by
  cases e <;> simp only [EpiEnd.enc, EpiEnd.WF] at * <;> omega

theorem br_and (n : Nat) (h : n < 32) : (0xd61f0000 + n * 32) &&& 0xfffffc1f = 0xd61f0000 := by
  have : ∀ k : Fin 32, (0xd61f0000 + k.val * 32) &&& 0xfffffc1f = 0xd61f0000 := by decide
  exact this ⟨n, h⟩

theorem shr_b (i : Nat) (hi : i < 67108864) : (5 * 67108864 + i) >>> 26 = 5 := by
  rw [Nat.shiftRight_eq_div_pow]; omega

theorem shr_br (n : Nat) (hn : n < 32) : (0xd61f0000 + n * 32) >>> 10 = 0xd61f0000 >>> 10 := by
  rw [Nat.shiftRight_eq_div_pow]; omega

/-- The forward scan stops at the end of the epilogue with what it has collected: always at a
return, at a tail call if sp has been adjusted. -/
theorem epiLoop_end (e : EpiEnd) (hwf : e.WF) (s : EpiState) (f : Nat) (rest : List Nat)
    (htail : e.isTail = true → s.spOff ≠ 0) : epiLoop (f + 1) e.enc rest s = some s := by
  cases e with
  | ret => rfl
  | retab => rfl
  | b i =>
    have h26 := shr_b i hwf
    simp [epiLoop, epiStep, EpiEnd.enc, h26, eq_false_top h26, htail rfl]
  | br n =>
    have h10 := shr_br n hwf
    simp [epiLoop, epiStep, EpiEnd.enc, br_and n hwf, eq_false_top h10, htail rfl]

/-! ## Classification of the instruction at pc -/

theorem epiInsnType_enc (ins : EpiInsn) (hwf : ins.WF) : epiInsnType ins.enc = .veryLikely := by
  cases ins with
  | ldp mode rt rt2 i =>
    obtain ⟨h1, h2, h3⟩ := hwf
    obtain ⟨f22, frn, -⟩ := ldpWord_fields mode.hi rt rt2 i h1 h2 h3
    cases mode <;> simp only [LdpMode.hi, EpiInsn.enc] at f22 frn ⊢ <;>
      simp [epiInsnType, eq_false_top f22, and_eq_false_top f22, shr_top f22 1, shr_top f22 4, f22, frn]
  | addSp i sh =>
    have hi : i < 4096 := hwf
    simp only [EpiInsn.enc, addSpWord_eq]
    obtain ⟨f22, -, frn, frd⟩ := immWord_fields (if sh then 581 else 580) i 31 hi (by omega)
    cases sh <;> simp only [if_true, if_false, Bool.false_eq_true] at f22 frn frd ⊢ <;>
      simp [epiInsnType, eq_false_top f22, and_eq_false_top f22, shr_top f22 1, shr_top f22 4, f22, frn, frd]

theorem proInsnType_enc (ins : EpiInsn) (hwf : ins.WF) : proInsnType ins.enc = .notExpected := by
  cases ins with
  | ldp mode rt rt2 i =>
    obtain ⟨h1, h2, h3⟩ := hwf
    obtain ⟨f22, -⟩ := ldpWord_fields mode.hi rt rt2 i h1 h2 h3
    cases mode <;> simp only [LdpMode.hi, EpiInsn.enc] at f22 ⊢ <;>
      simp [proInsnType, eq_false_top f22, f22]
  | addSp i sh =>
    have hi : i < 4096 := hwf
    simp only [EpiInsn.enc, addSpWord_eq]
    obtain ⟨f22, -, frn, frd⟩ := immWord_fields (if sh then 581 else 580) i 31 hi (by omega)
    cases sh <;> simp only [if_true, if_false, Bool.false_eq_true] at f22 frn frd ⊢ <;>
      simp [proInsnType, eq_false_top f22, shr_top f22 8, f22, frn, frd]
    -- `mov x29, sp` has the same high bits and differs in `Rd`
    intro e; simp [e] at frd

theorem epiInsnType_end (e : EpiEnd) (hwf : e.WF) :
    epiInsnType e.enc = (if e.isTail then .couldBeTailCall 16 else .veryLikely) := by
  cases e with
  | ret => rfl
  | retab => rfl
  | b i =>
    have h26 := shr_b i hwf
    simp [epiInsnType, EpiEnd.enc, EpiEnd.isTail, h26, eq_false_top h26]
  | br n =>
    have h10 := shr_br n hwf
    simp [epiInsnType, EpiEnd.enc, EpiEnd.isTail, br_and n hwf, eq_false_top h10]

theorem proInsnType_end (e : EpiEnd) (hwf : e.WF) : proInsnType e.enc = .notExpected := by
  cases e with
  | ret => rfl
  | retab => rfl
  | b i =>
    have h26 := shr_b i hwf
    have h22 : ((5 * 67108864 + i) >>> 22) >>> 4 = 5 := by rw [← Nat.shiftRight_add]; exact h26
    simp [proInsnType, EpiEnd.enc, eq_false_top h26, and_eq_false_top h22]
  | br n =>
    have h10 := shr_br n hwf
    simp [proInsnType, EpiEnd.enc, eq_false_top h10, shr_top h10 12]

/-! ## The rule performs what the rest of the epilogue will do -/

/-- Sizes a real epilogue has: the frame is released in multiples of 16 bytes, slots are
8-aligned, everything fits the rule's fields, and fp is never restored without lr. -/
def Shape (s : EpiState) : Prop :=
  0 ≤ s.spOff ∧ s.spOff % 16 = 0 ∧ s.spOff < 1048576 ∧
  (∀ f, s.fpOff = some f → f % 8 = 0 ∧ -262144 ≤ f ∧ f < 262144 ∧ s.lrOff ≠ none) ∧
  (∀ l, s.lrOff = some l → l % 8 = 0 ∧ -262144 ≤ l ∧ l < 262144)

theorem tdiv8 (x : Int) (h : x % 8 = 0) : x.tdiv 8 * 8 = x := by
  rw [Int.tdiv_eq_ediv_of_dvd (by omega)]; omega

/-- The frame size `off` in the units of the rule: what both analysers compute from the sp
offset they have summed up, and what the rule's execution needs to know about it. -/
theorem frameQ {sp : Nat} {off : Int} (h0 : 0 ≤ off) (h16 : off % 16 = 0) (hmax : off < 1048576)
    (hfit : sp + off < 18446744073709551616) :
    off.tdiv 16 = off / 16 ∧ (0 ≤ off / 16 ∧ off / 16 < 65536) ∧ (off / 16 = 0 ↔ off = 0) ∧
    (off / 16).toNat * 16 < U64 ∧ sp + (off / 16).toNat * 16 < U64 ∧
    sp + (off / 16).toNat * 16 = (sp + off).toNat := by
  refine ⟨Int.tdiv_eq_ediv_of_nonneg h0, ?_⟩
  unfold U64
  omega

/-- The sp-only rule for a frame of `off` bytes moves sp up by `off` and keeps lr and fp. -/
theorem exec_spRule (regs : RegsA64) (mem : Mem) {off : Int} (h0 : 0 ≤ off) (h16 : off % 16 = 0)
    (hmax : off < 1048576) (hfit : regs.sp + off < 18446744073709551616) :
    execA64 (if off / 16 = 0 then .noOp else .offsetSp (off / 16).toNat) true regs mem =
      finishA64 true regs regs.lr ((regs.sp : Int) + off).toNat regs.fp := by
  obtain ⟨-, -, hz, hmul, hlt, hnew⟩ := frameQ h0 h16 hmax hfit
  split
  · rename_i h
    have : ((regs.sp : Int) + off).toNat = regs.sp := by omega
    simp [execA64, this]
  · rw [execA64_offsetSp hlt, hnew]

/-- A recorded slot, in the rule's units of 8 bytes, is read back by the rule's address
computation. -/
theorem slot_read {mem : Mem} {sp : Nat} {l : Int} {v : Nat} (hsp : sp < U64) (h8 : l % 8 = 0)
    (hl : -262144 ≤ l ∧ l < 262144) (hr : readAt mem (sp + l) = some v) :
    (-32768 ≤ l.tdiv 8 ∧ l.tdiv 8 < 32768) ∧ InI64 (l.tdiv 8 * 8) ∧
    ∃ a, caddSigned sp (l.tdiv 8 * 8) = some a ∧ mem a = some v := by
  have hl8 := tdiv8 l h8
  have hi : InI64 (l.tdiv 8 * 8) := by rw [hl8]; exact ⟨by omega, by omega⟩
  exact ⟨by omega, hi, read_slot hsp hi (by rwa [hl8])⟩

theorem epiFound_exec (s : EpiState) (regs : RegsA64) (mem : Mem) (m' : M)
    (hrel : Rel mem regs.sp regs.fp regs.lr s m') (hs : Shape s) (hregs : regs.WF)
    (hsp : m'.sp < 18446744073709551616) :
    ∃ rule, epiFound s = some rule ∧
      execA64 rule true regs mem = finishA64 true regs m'.lr m'.sp.toNat m'.fp := by
  obtain ⟨h0, h16, hmax, hf, hl⟩ := hs
  obtain ⟨rsp, rfp, rlr⟩ := hrel
  obtain ⟨_, _, hspU, _⟩ := hregs
  rw [rsp] at hsp ⊢
  obtain ⟨hq, hq0, -, hmul, hlt, hnew⟩ := frameQ h0 h16 hmax hsp
  cases hfo : s.fpOff with
  | none =>
    rw [hfo] at rfp
    cases hlo : s.lrOff with
    | none =>
      rw [hlo] at rlr
      refine ⟨if s.spOff / 16 = 0 then .noOp else .offsetSp (s.spOff / 16).toNat,
        by simp [epiFound, hfo, hlo, hq, hq0, apply_ite some], ?_⟩
      rw [show m'.fp = _ from rfp, show m'.lr = _ from rlr]
      exact exec_spRule regs mem h0 h16 hmax hsp
    | some l =>
      rw [hlo] at rlr
      obtain ⟨l8, hlr⟩ := hl l hlo
      obtain ⟨hd, hiL, a, haL, hmL⟩ := slot_read hspU l8 hlr rlr
      refine ⟨.offsetSpAndRestoreLr (s.spOff / 16).toNat (l.tdiv 8),
        by simp [epiFound, hfo, hlo, hq, hq0, hd], ?_⟩
      rw [execA64_offsetSpAndRestoreLr hlt hiL haL hmL, hnew, show m'.fp = _ from rfp]
  | some f =>
    rw [hfo] at rfp
    obtain ⟨f8, f1, f2, hlne⟩ := hf f hfo
    cases hlo : s.lrOff with
    | none => exact absurd hlo hlne
    | some l =>
      rw [hlo] at rlr
      obtain ⟨l8, hlr⟩ := hl l hlo
      obtain ⟨hd, hiL, a, haL, hmL⟩ := slot_read hspU l8 hlr rlr
      obtain ⟨hd2, hiF, b, haF, hmF⟩ := slot_read hspU f8 ⟨f1, f2⟩ rfp
      refine ⟨.offsetSpAndRestoreFpAndLr (s.spOff / 16).toNat (f.tdiv 8) (l.tdiv 8),
        by simp [epiFound, hfo, hlo, hq, hq0, hd, hd2], ?_⟩
      rw [execA64_offsetSpAndRestoreFpAndLr hlt hiL hiF haL hmL haF hmF, hnew]

theorem inI32_of_abs (x : Int) (h : x.natAbs < 2147483648) : inI32 x = true := by
  simp only [inI32, Bool.and_eq_true, decide_eq_true_eq]; omega

theorem sx7_bound (i : Nat) (h : i < 128) : -64 ≤ sx7 i ∧ sx7 i < 64 := by
  unfold sx7; split <;> omega

theorem addImm_bound (i : Nat) (sh : Bool) (h : i < 4096) : 0 ≤ addImm i sh ∧ addImm i sh < 16777216 := by
  unfold addImm; split <;> omega

@[simp] theorem setOff_spOff (r : Nat) (loc : Int) (s : EpiState) : (setOff r loc s).spOff = s.spOff := by
  unfold setOff; split <;> (try split) <;> rfl

theorem applyEff_spOff_bound (i : EpiInsn) (s : EpiState) (hwf : i.WF) :
    ((applyEff i s).spOff - s.spOff).natAbs < 16777216 := by
  cases i with
  | ldp mode rt rt2 k =>
    have := sx7_bound k hwf.2.2
    cases mode <;> simp [applyEff] <;> omega
  | addSp k sh =>
    have := addImm_bound k sh hwf
    simp [applyEff]; omega

theorem effFits_of_bound (i : EpiInsn) (s : EpiState) (hwf : i.WF)
    (h : s.spOff.natAbs + 16777216 < 2000000000) : EffFits i s := by
  cases i with
  | ldp mode rt rt2 k =>
    have := sx7_bound k hwf.2.2
    refine ⟨inI32_of_abs _ (by omega), inI32_of_abs _ ?_⟩
    split <;> omega
  | addSp k sh =>
    have := addImm_bound k sh hwf
    exact inI32_of_abs _ (by omega)

/-- Epilogues of up to a hundred instructions never leave the analyser's `i32` range. -/
theorem fitsAll_of_short : ∀ (is : List EpiInsn) (s : EpiState), (∀ i ∈ is, i.WF) →
    s.spOff.natAbs + (is.length + 1) * 16777216 ≤ 2000000000 → FitsAll is s := by
  intro is
  induction is with
  | nil => intro s _ _; trivial
  | cons i is ih =>
    intro s hwf hb
    have hwi : i.WF := hwf i (by simp)
    have hstep := applyEff_spOff_bound i s hwi
    simp only [List.length_cons] at hb
    exact ⟨effFits_of_bound i s hwi (by omega), ih _ (fun j hj => hwf j (by simp [hj])) (by omega)⟩

theorem first_word (is : List EpiInsn) (e : EpiEnd) (rest : List Nat)
    (hwf : ∀ i ∈ is, i.WF) (hewf : e.WF) :
    wordAt (code (is.map EpiInsn.enc ++ [e.enc]) ++ rest) 0 =
      (match is with | [] => e.enc | i :: _ => i.enc) := by
  cases is with
  | nil => simp only [List.map_nil, List.nil_append, code_cons, List.append_assoc]
           exact wordAt_wordBytes _ _ (end_lt e hewf)
  | cons i is =>
    simp only [List.map_cons, List.cons_append, code_cons, List.append_assoc]
    exact wordAt_wordBytes _ _ (enc_lt i (hwf i (by simp)))

theorem wordAt_append (pre l : List Nat) (k : Nat) : wordAt (pre ++ l) (pre.length + k) = wordAt l k := by
  simp [wordAt, List.getD_eq_getElem?_getD, List.getElem?_append_right, Nat.add_assoc]

def EpiInsn.adjustsSp : EpiInsn → Bool
  | .ldp .off _ _ _ => false
  | _ => true

theorem adjustsSp_enc (ins : EpiInsn) (hwf : ins.WF) (h : ins.adjustsSp = true) :
    FH.adjustsSp ins.enc = true := by
  cases ins with
  | ldp mode rt rt2 i =>
    obtain ⟨h1, h2, h3⟩ := hwf
    obtain ⟨f22, frn, -⟩ := ldpWord_fields mode.hi rt rt2 i h1 h2 h3
    cases mode <;> simp [FH.adjustsSp, EpiInsn.enc, LdpMode.hi, EpiInsn.adjustsSp, f22, frn] at h f22 frn ⊢ <;>
      simp [f22, frn]
  | addSp i sh =>
    simp only [EpiInsn.enc, addSpWord_eq]
    obtain ⟨f22, -, frn, frd⟩ := immWord_fields (if sh then 581 else 580) i 31 hwf (by omega)
    cases sh <;> simp only [if_true, if_false, Bool.false_eq_true] at f22 frn frd ⊢ <;>
      simp [FH.adjustsSp, shr_top f22 1, frn, frd]

end A64

/-- With an instruction at pc that no prologue contains, prologue analysis finds nothing. -/
theorem anaPrologueA64_notExpected {text : List Nat} {pc : Nat} (hpc : pc ≤ text.length)
    (h : proInsnType (wordAt (text.drop pc) 0) = .notExpected) : anaPrologueA64 text pc = some none := by
  simp only [anaPrologueA64, Nat.not_lt.mpr hpc, if_false, h, if_true, ite_self]

open A64 in
/-- Stopped on a tail call `b` / `br` right after any word that adjusts sp: `NoOp`. -/
theorem anaA64_tail_call_after (pre rest : List Nat) (w : Nat) (e : EpiEnd) (hw : w < 4294967296)
    (hadj : FH.adjustsSp w = true) (hewf : e.WF) (htl : e.isTail = true) :
    anaA64 (pre ++ wordBytes w ++ wordBytes e.enc ++ rest) (pre.length + 4) = some (some .noOp) := by
  have hdrop : (pre ++ wordBytes w ++ wordBytes e.enc ++ rest).drop (pre.length + 4) =
      wordBytes e.enc ++ rest := by
    have : (pre ++ wordBytes w).length = pre.length + 4 := by simp [wordBytes]
    rw [List.append_assoc (pre ++ wordBytes w), ← this, List.drop_left]
  have hpc : pre.length + 4 ≤ (pre ++ wordBytes w ++ wordBytes e.enc ++ rest).length := by
    simp [wordBytes]
  have hwe : wordAt (wordBytes e.enc ++ rest) 0 = e.enc := wordAt_wordBytes _ _ (end_lt e hewf)
  have hl4 : ¬ (wordBytes e.enc ++ rest).length < 4 := by simp [wordBytes]
  have hprev : wordAt (pre ++ wordBytes w ++ wordBytes e.enc ++ rest) (pre.length + 4 - 4) = w := by
    rw [Nat.add_sub_cancel, List.append_assoc, List.append_assoc, ← Nat.add_zero pre.length, wordAt_append,
      ← List.append_assoc]
    exact wordAt_wordBytes _ _ hw
  rw [anaA64, anaPrologueA64_notExpected hpc (by rw [hdrop, hwe]; exact proInsnType_end e hewf)]
  simp only [anaEpilogueA64, Nat.not_lt.mpr hpc, if_false, hdrop, hl4, hwe, epiInsnType_end e hewf, htl, if_true,
    hprev, hadj]
  simp [epiFound]

open A64 in
/-- **arm64 tail calls.** Stopped exactly on the `b` / `br Xn` that ends an epilogue, right after
an instruction that adjusted sp (`ldp …, [sp], #n`, `ldp …, [sp, #n]!` or `add sp, sp, #n`):
everything is already restored, and the analysis says so (`NoOp`: the caller's registers are
the current ones, the return address is lr). -/
theorem C02_a64_tail_call_after_sp_adjust (pre rest : List Nat) (prev : A64.EpiInsn) (e : A64.EpiEnd)
    (regs : RegsA64) (mem : Mem)
    (hprev : prev.WF) (hadj : prev.adjustsSp = true) (hewf : e.WF) (htl : e.isTail = true) :
    anaA64 (pre ++ wordBytes prev.enc ++ wordBytes e.enc ++ rest) (pre.length + 4) =
      some (some .noOp) ∧
    execA64 .noOp true regs mem = finishA64 true regs regs.lr regs.sp regs.fp :=
  ⟨anaA64_tail_call_after pre rest _ e (enc_lt prev hprev) (adjustsSp_enc prev hprev hadj) hewf htl,
    by simp [execA64]⟩

open A64 in
/-- **arm64 epilogues are exact.** A thread stopped before any suffix of an epilogue - any
sequence of `ldp` (post-index, pre-index, signed offset; any register pair, any immediate) and
`add sp, sp, #imm` - that ends in `ret` / `retab`, or in a tail call `b` / `br Xn` once sp has
been adjusted: instruction analysis yields a rule, and executing the rule produces exactly the
registers the CPU will have when the function returns (`runM`: sp, x29, x30), whatever the
instructions, their order and their immediates. -/
theorem C02_a64_epilogue_exact (text : List Nat) (pc : Nat) (is : List A64.EpiInsn) (e : A64.EpiEnd)
    (rest : List Nat) (regs : RegsA64) (mem : Mem) (m' : A64.M)
    (hpc : pc ≤ text.length)
    (htext : text.drop pc = code (is.map A64.EpiInsn.enc ++ [e.enc]) ++ rest)
    (hwf : ∀ i ∈ is, i.WF) (hewf : e.WF) (hfits : FitsAll is {})
    (htail : e.isTail = true → (effAll is {}).spOff ≠ 0)
    (hrun : runM mem is ⟨regs.sp, regs.fp, regs.lr⟩ = some m')
    (hshape : Shape (effAll is {})) (hregs : regs.WF) (hsp : m'.sp < 18446744073709551616) :
    ∃ rule, anaA64 text pc = some (some rule) ∧
      execA64 rule true regs mem = finishA64 true regs m'.lr m'.sp.toNat m'.fp := by
  have hrel : Rel mem regs.sp regs.fp regs.lr (effAll is {}) m' :=
    rel_run mem regs.sp regs.fp regs.lr is {} ⟨regs.sp, regs.fp, regs.lr⟩ m'
      ⟨by simp, by simp, by simp⟩ hrun
  obtain ⟨rule, hfound, hexec⟩ := epiFound_exec _ regs mem m' hrel hshape hregs hsp
  refine ⟨rule, ?_, hexec⟩
  have hlen : (text.drop pc).length = 4 * (is.length + 1) + rest.length := by
    rw [htext, List.length_append, length_code]; simp
  have hfw := first_word is e rest hwf hewf
  have hpro : anaPrologueA64 text pc = some none := by
    apply anaPrologueA64_notExpected hpc
    rw [htext, hfw]
    cases is with
    | nil => exact proInsnType_end e hewf
    | cons i is => exact proInsnType_enc i (hwf i (by simp))
  -- the epilogue scan
  have hepi : anaEpilogueA64 text pc = some (some rule) := by
    have hnp : ¬ pc > text.length := by omega
    have hl4 : ¬ (text.drop pc).length < 4 := by omega
    have ht : epiInsnType (wordAt (text.drop pc) 0) = .veryLikely := by
      rw [htext, hfw]
      cases is with
      | nil =>
        rw [epiInsnType_end e hewf]
        have : e.isTail = false := by
          cases h : e.isTail
          · rfl
          · exact absurd (by simp [effAll]) (htail h)
        simp [this]
      | cons i is => exact epiInsnType_enc i (hwf i (by simp))
    simp only [anaEpilogueA64, hnp, if_false, hl4, ht]
    rw [htext, epiLoop_insns is {} _ e.enc rest hwf hfits (by rw [← htext, hlen]; omega) (end_lt e hewf)]
    have hfu : (code (is.map A64.EpiInsn.enc ++ [e.enc]) ++ rest).length + 1 - is.length =
        ((code (is.map A64.EpiInsn.enc ++ [e.enc]) ++ rest).length - is.length) + 1 := by
      rw [← htext, hlen]; omega
    rw [hfu, epiLoop_end e hewf _ _ rest htail]
    simp [hfound]
  simp only [anaA64, hpro, hepi]

end FH

namespace FH
namespace A64

/-! ## Prologues -/

inductive ProInsn where
  | pacibsp
  /-- `stp Xrt, Xrt2, [sp, #imm]!` / `[sp, #imm]` / `[sp], #imm` -/
  | stp (mode : LdpMode) (rt rt2 imm7 : Nat)
  /-- `sub sp, sp, #imm12 {, lsl #12}` -/
  | subSp (imm12 : Nat) (lsl12 : Bool)
  deriving Repr

def ProInsn.WF : ProInsn → Prop
  | .pacibsp => True
  | .stp _ rt rt2 i => rt < 32 ∧ rt2 < 32 ∧ i < 128
  | .subSp i _ => i < 4096

/-- Bits 31..22 of `stp Xt, Xt2, [sp…]` (64-bit, store): `10 101 0 0mm 0`. -/
def stpHi : LdpMode → Nat
  | .off => 0b1010100100
  | .post => 0b1010100010
  | .pre => 0b1010100110

def subSpWord (i : Nat) (sh : Bool) : Nat :=
  0b110100010 * 8388608 + (if sh then 4194304 else 0) + i * 1024 + 31 * 32 + 31

def ProInsn.enc : ProInsn → Nat
  | .pacibsp => 0xd503237f
  | .stp mode rt rt2 i => ldpWord (stpHi mode) rt rt2 i
  | .subSp i sh => subSpWord i sh

/-- How far the instruction moves sp down. -/
def ProInsn.dec : ProInsn → Int
  | .pacibsp => 0
  | .stp .off _ _ _ => 0
  | .stp _ _ _ i => -(sx7 i * 8)
  | .subSp i sh => addImm i sh

/-- sp after executing the instructions (registers x29/x30 are only stored, not changed;
`pacibsp` changes only the bits of lr that the pointer authentication mask removes). -/
def runPro : List ProInsn → Int → Int
  | [], sp => sp
  | i :: rest, sp => runPro rest (sp - i.dec)

def totalDec (ps : List ProInsn) : Int := (ps.map ProInsn.dec).sum

theorem runPro_total : ∀ (ps : List ProInsn) (sp : Int), runPro ps sp = sp - totalDec ps := by
  intro ps
  induction ps with
  | nil => intro sp; simp [runPro, totalDec]
  | cons i ps ih => intro sp; simp only [runPro, ih, totalDec, List.map_cons, List.sum_cons]; omega

theorem subSpWord_eq (i : Nat) (sh : Bool) : subSpWord i sh = immWord (if sh then 837 else 836) i 31 := by
  cases sh <;> rfl

theorem proEnc_lt (ins : ProInsn) (hwf : ins.WF) : ins.enc < 4294967296 := by
  cases ins with
  | pacibsp => decide
  | stp mode rt rt2 i =>
    exact lt_of_top (ldpWord_fields (stpHi mode) rt rt2 i hwf.1 hwf.2.1 hwf.2.2).1 (by cases mode <;> decide)
  | subSp i sh =>
    rw [ProInsn.enc, subSpWord_eq]
    exact lt_of_top (immWord_fields _ i 31 hwf (by omega)).1 (by cases sh <;> decide)

theorem dec_bound (i : ProInsn) (hwf : i.WF) : i.dec.natAbs < 16777216 := by
  cases i with
  | pacibsp => simp [ProInsn.dec]
  | stp mode rt rt2 k =>
    have := sx7_bound k hwf.2.2
    cases mode <;> simp [ProInsn.dec] <;> omega
  | subSp k sh =>
    have := addImm_bound k sh hwf
    simp [ProInsn.dec]; omega

/-- Stepping backwards over an executed prologue instruction adds what it subtracted. -/
theorem proReverseStep_enc (ins : ProInsn) (off : Int) (hwf : ins.WF)
    (hfit : (off + ins.dec).natAbs < 2147483648) :
    proReverseStep ins.enc off = .valid (off + ins.dec) := by
  cases ins with
  | pacibsp => simp [proReverseStep, ProInsn.enc, ProInsn.dec]
  | stp mode rt rt2 i =>
    obtain ⟨h1, h2, h3⟩ := hwf
    obtain ⟨f22, frn, -⟩ := ldpWord_fields (stpHi mode) rt rt2 i h1 h2 h3
    have fimm := imm7x8_ldpWord (stpHi mode) rt rt2 i h1 h2 h3
    have hin := inI32_of_abs _ hfit
    cases mode <;> simp only [stpHi, ProInsn.enc, ProInsn.dec] at f22 frn fimm hin ⊢ <;>
      simp [proReverseStep, eq_false_top f22, shr_top f22 1, f22, frn, fimm, ← Int.sub_eq_add_neg] at hin ⊢ <;>
      exact hin
  | subSp i sh =>
    have hi : i < 4096 := hwf
    have hin : inI32 (off + addImm i sh) = true := inI32_of_abs _ hfit
    simp only [ProInsn.enc, subSpWord_eq, ProInsn.dec]
    obtain ⟨f22, fi, frn, frd⟩ := immWord_fields (if sh then 837 else 836) i 31 hi (by omega)
    cases sh <;> simp only [if_true, if_false, Bool.false_eq_true] at f22 fi frn frd ⊢ <;>
      simp [proReverseStep, eq_false_top f22, shr_top f22 1, f22, fi, frn, frd, imm12, addImm] at hin ⊢ <;>
      exact hin

/-- Whether the scan would stop at this word (anything that is not a prologue instruction,
e.g. the last instruction of the previous function). -/
def StopsScan (w : Nat) : Prop := ∀ off, proReverseStep w off = .unexpected

/-- The backwards scan steps over executed prologue instructions, adding up what they
subtracted from sp, and goes on with whatever lies before them. -/
theorem proScan_enc : ∀ (rs : List ProInsn) (tail : List Nat) (off : Int), (∀ i ∈ rs, i.WF) →
    off.natAbs + (rs.length + 1) * 16777216 ≤ 2000000000 →
    proScan (rs.map ProInsn.enc ++ tail) off = proScan tail (off + (rs.map ProInsn.dec).sum)
  | [], tail, off, _, _ => by simp
  | i :: rs, tail, off, hwf, hb => by
    have hwi : i.WF := hwf i (by simp)
    have hdb := dec_bound i hwi
    simp only [List.length_cons] at hb
    simp only [List.map_cons, List.cons_append, List.sum_cons]
    rw [proScan, proReverseStep_enc i off hwi (by omega)]
    simp only
    rw [proScan_enc rs tail (off + i.dec) (fun j hj => hwf j (by simp [hj])) (by omega), Int.add_assoc]

theorem proScan_rev (rs : List ProInsn) (before : List Nat) (off : Int)
    (hwf : ∀ i ∈ rs, i.WF) (hb : before = [] ∨ ∃ w l, before = w :: l ∧ StopsScan w)
    (hbound : off.natAbs + (rs.length + 1) * 16777216 ≤ 2000000000) :
    proScan (rs.map ProInsn.enc ++ before) off = some (off + (rs.map ProInsn.dec).sum) := by
  rw [proScan_enc rs before off hwf hbound]
  rcases hb with rfl | ⟨w, l, rfl, hw⟩
  · rfl
  · rw [proScan, hw]

theorem proScan_prologue (ps : List ProInsn) (before : List Nat)
    (hwf : ∀ i ∈ ps, i.WF) (hb : before = [] ∨ ∃ w l, before = w :: l ∧ StopsScan w)
    (hlen : ps.length ≤ 100) :
    proScan ((ps.map ProInsn.enc).reverse ++ before) 0 = some (totalDec ps) := by
  have := proScan_rev ps.reverse before 0 (fun i hi => hwf i (by simpa using hi)) hb
    (by simp; omega)
  rw [List.map_reverse, List.map_reverse, List.sum_reverse_int] at this
  simpa [totalDec] using this

theorem code_append (a b : List Nat) : code (a ++ b) = code a ++ code b := by
  simp [code]

theorem wordAt_code : ∀ (ws : List Nat) (k : Nat) (rest : List Nat) (hk : k < ws.length),
    (∀ w ∈ ws, w < 4294967296) → wordAt (code ws ++ rest) (4 * k) = ws[k] := by
  intro ws
  induction ws with
  | nil => intro k rest hk; simp at hk
  | cons w ws ih =>
    intro k rest hk hlt
    cases k with
    | zero =>
      rw [code_cons, List.append_assoc]
      simpa using wordAt_wordBytes w (code ws ++ rest) (hlt w (by simp))
    | succ k =>
      have e : 4 * (k + 1) = (wordBytes w).length + 4 * k := by simp [wordBytes]; omega
      rw [code_cons, List.append_assoc, e, wordAt_append]
      simpa using ih k rest (by simpa using hk) (fun x hx => hlt x (by simp [hx]))

theorem wordsRev_code (ws : List Nat) (hlt : ∀ w ∈ ws, w < 4294967296) :
    wordsRev (code ws) = ws.reverse := by
  unfold wordsRev
  congr 1
  apply List.ext_getElem
  · simp [length_code]
  · intro i h1 h2
    simp only [List.getElem_map, List.getElem_range]
    have := wordAt_code ws i [] h2 hlt
    simpa using this

/-- `add x29, sp, #k` (`mov x29, sp` for `k = 0`). -/
def addFpWord (k : Nat) : Nat := 0b100100010 * 8388608 + k * 1024 + 31 * 32 + 29

theorem addFpWord_eq (k : Nat) : addFpWord k = immWord 580 k 29 := rfl

theorem proReverseStep_addFp (k : Nat) (hk : k < 4096) (off : Int) :
    proReverseStep (addFpWord k) off = .fpSetUp := by
  obtain ⟨f22, -, frn, frd⟩ := immWord_fields 580 k 29 hk (by omega)
  simp [addFpWord_eq, proReverseStep, eq_false_top f22, shr_top f22 1, f22, frn, frd]

/-- Once the frame pointer has been set up the backwards scan gives up: the body rule applies. -/
theorem proScan_after_fp_setup : ∀ (rs : List ProInsn) (k : Nat) (before : List Nat) (off : Int),
    (∀ i ∈ rs, i.WF) → k < 4096 → off.natAbs + (rs.length + 1) * 16777216 ≤ 2000000000 →
    proScan (rs.map ProInsn.enc ++ addFpWord k :: before) off = none := by
  intro rs k before off hwf hk hb
  rw [proScan_enc rs _ off hwf hb, proScan, proReverseStep_addFp k hk]

end A64

open A64 in
/-- `anaPrologueA64` at the end of `pre`, in terms of the backwards scan over the words of `pre`. -/
theorem anaPrologueA64_at (pre : List Nat) (next : Nat) (rest : List Nat) (hn : next < 4294967296)
    (ht : proInsnType next ≠ .notExpected) {off : Int}
    (hscan : proScan (wordsRev pre) 0 = some off)
    (hcw : proInsnType next = .couldBeWithSub → off ≠ 0) (hq : 0 ≤ off.tdiv 16 ∧ off.tdiv 16 < 65536) :
    anaPrologueA64 (pre ++ (wordBytes next ++ rest)) pre.length =
      some (some (if off.tdiv 16 = 0 then .noOp else .offsetSp (off.tdiv 16).toNat)) := by
  have hl4 : ¬ (wordBytes next).length + rest.length < 4 := by simp [wordBytes]
  have hcw' : ¬ (proInsnType next = .couldBeWithSub ∧ off = 0) := fun ⟨a, b⟩ => hcw a b
  simp only [anaPrologueA64, List.length_append, Nat.not_lt.mpr (Nat.le_add_right _ _), if_false,
    List.take_left, List.drop_left, hl4, wordAt_wordBytes _ _ hn, ht, hscan, hcw', hq, and_self, if_true]

open A64 in
/-- **arm64 prologues are exact.** A thread stopped inside a prologue - after any sequence of
`pacibsp`, `stp` (pre-index, signed offset, post-index; any registers, any immediates) and
`sub sp, sp, #imm` counted from the function start or from the first foreign instruction
before it, with another prologue-type instruction at pc: the rule found by instruction
analysis restores exactly the sp the function was entered with, leaves fp alone and takes the
return address from lr - which is the caller's state, since none of these instructions changes
x29 or (up to pointer authentication bits) x30. -/
theorem C02_a64_prologue_exact (pws : List Nat) (ps : List A64.ProInsn) (next : Nat) (rest : List Nat)
    (regs : RegsA64) (mem : Mem) (spEntry : Int)
    (hpws : pws = [] ∨ ∃ l w, pws = l ++ [w] ∧ A64.StopsScan w)
    (hplt : ∀ w ∈ pws, w < 4294967296) (hnlt : next < 4294967296)
    (hwf : ∀ i ∈ ps, i.WF) (hlen : ps.length ≤ 100)
    (hnext : proInsnType next = .veryLikely ∨
      (proInsnType next = .couldBeWithSub ∧ A64.totalDec ps ≠ 0))
    (hrun : A64.runPro ps spEntry = regs.sp)
    (hshape : (spEntry - regs.sp) % 16 = 0 ∧ spEntry - regs.sp < 1048576 ∧ regs.sp ≤ spEntry)
    (hfit : spEntry < 18446744073709551616) :
    ∃ rule, anaA64 (code (pws ++ ps.map A64.ProInsn.enc ++ [next]) ++ rest)
        (4 * (pws.length + ps.length)) = some (some rule) ∧
      execA64 rule true regs mem = finishA64 true regs regs.lr spEntry.toNat regs.fp := by
  have htot : totalDec ps = spEntry - regs.sp := by
    have := runPro_total ps spEntry; omega
  obtain ⟨h16, hmax, h0⟩ := hshape
  rw [← htot] at h16 hmax
  have hsp : spEntry = regs.sp + totalDec ps := by omega
  obtain ⟨hq, hq0, -⟩ := frameQ (sp := regs.sp) (off := totalDec ps) (by omega) h16 hmax (by omega)
  have hall : ∀ w ∈ pws ++ ps.map ProInsn.enc, w < 4294967296 := by
    intro w hw
    rcases List.mem_append.mp hw with h | h
    · exact hplt w h
    · obtain ⟨i, hi, rfl⟩ := List.mem_map.mp h
      exact proEnc_lt i (hwf i hi)
  have hbefore : pws.reverse = [] ∨ ∃ w l, pws.reverse = w :: l ∧ StopsScan w := by
    rcases hpws with rfl | ⟨l, w, rfl, hs⟩
    · left; rfl
    · right; exact ⟨w, l.reverse, by simp, hs⟩
  have hscan : proScan (wordsRev (code (pws ++ ps.map ProInsn.enc))) 0 = some (totalDec ps) := by
    rw [wordsRev_code _ hall, List.reverse_append]
    exact proScan_prologue ps pws.reverse hwf hbefore hlen
  have hana := anaPrologueA64_at _ next rest hnlt (by rcases hnext with h | ⟨h, _⟩ <;> simp [h]) hscan
    (by rcases hnext with h | ⟨_, h⟩ <;> simp [h]) (hq ▸ hq0)
  rw [length_code, List.length_append, List.length_map, hq] at hana
  refine ⟨_, ?_, hsp ▸ exec_spRule regs mem (by omega) h16 hmax (by omega)⟩
  rw [anaA64, code_append, List.append_assoc]
  simp only [code, List.flatMap_cons, List.flatMap_nil, List.append_nil] at hana ⊢
  rw [hana]
end FH

namespace FH
open A64

/-! ## Non-vacuity -/

/-- `ldp x29, x30, [sp, #16]; add sp, sp, #32; ret` (a frameless Apple-style epilogue) as bytes. -/
example : code ([EpiInsn.ldp .off 29 30 2, .addSp 32 false].map EpiInsn.enc ++ [EpiEnd.ret.enc]) =
    [0xfd, 0x7b, 0x41, 0xa9, 0xff, 0x83, 0x00, 0x91, 0xc0, 0x03, 0x5f, 0xd6] := by decide

/-- The hypotheses of `C02_a64_epilogue_exact` hold for that epilogue on a concrete stack, and the
conclusion is the expected caller state (sp + 32, the saved fp and lr). -/
example :
    let mem : Mem := fun a => if a = 0x1010 then some 0x2000 else if a = 0x1018 then some 0x400123 else none
    let regs : RegsA64 := { mask := 0xffffffffffff, lr := 7, sp := 0x1000, fp := 0x1040 }
    let is := [EpiInsn.ldp .off 29 30 2, .addSp 32 false]
    (∀ i ∈ is, i.WF) ∧ FitsAll is {} ∧ Shape (effAll is {}) ∧
    runM mem is ⟨regs.sp, regs.fp, regs.lr⟩ = some ⟨0x1020, 0x2000, 0x400123⟩ ∧
    anaA64 [0xfd, 0x7b, 0x41, 0xa9, 0xff, 0x83, 0x00, 0x91, 0xc0, 0x03, 0x5f, 0xd6] 0 =
      some (some (.offsetSpAndRestoreFpAndLr 2 2 3)) := by
  refine ⟨?_, ?_, ?_, ?_, by decide⟩
  · intro i hi; simp at hi; rcases hi with rfl | rfl <;> simp [EpiInsn.WF]
  · simp [FitsAll, EffFits, applyEff, setOff, sx7, addImm, inI32]
  · simp [Shape, effAll, applyEff, setOff, sx7, addImm]
  · simp [runM, stepM, readAt, sx7, setRegM, addImm]

/-- `ret` (the end of the previous function) stops the backwards prologue scan. -/
example : StopsScan 0xd65f03c0 := by intro off; simp [proReverseStep]

/-- `ret | pacibsp; stp x24, x23, [sp, #-64]!; stp x22, x21, [sp, #16]` with
`stp x20, x19, [sp, #32]` at pc (`_malloc_zone_realloc`, framehop's own unit test bytes): the
hypotheses of `C02_a64_prologue_exact` hold and the rule is `OffsetSp 4`. -/
example :
    let ps := [ProInsn.pacibsp, .stp .pre 24 23 120, .stp .off 22 21 2]
    (∀ i ∈ ps, i.WF) ∧ totalDec ps = 64 ∧ runPro ps 0x1040 = 0x1000 ∧
    proInsnType 0xa9024ff4 = .couldBeWithSub ∧
    code ([0xd65f03c0] ++ ps.map ProInsn.enc ++ [0xa9024ff4]) =
      [0xc0, 0x03, 0x5f, 0xd6, 0x7f, 0x23, 0x03, 0xd5, 0xf8, 0x5f, 0xbc, 0xa9, 0xf6, 0x57, 0x01, 0xa9,
       0xf4, 0x4f, 0x02, 0xa9] ∧
    anaA64 [0xc0, 0x03, 0x5f, 0xd6, 0x7f, 0x23, 0x03, 0xd5, 0xf8, 0x5f, 0xbc, 0xa9, 0xf6, 0x57, 0x01, 0xa9,
       0xf4, 0x4f, 0x02, 0xa9] 16 = some (some (.offsetSp 4)) := by
  refine ⟨?_, by decide, by decide, by decide, by decide, by decide⟩
  intro i hi; simp at hi; rcases hi with rfl | rfl | rfl <;> simp [ProInsn.WF]

/-- After `stp x29, x30, [sp, #-16]!; mov x29, sp` with `sub sp, sp, #0x400` at pc the analysis
defers to the body rule (frame pointer), as it must: fp no longer holds the caller's value. -/
example : anaA64 [0xfd, 0x7b, 0xbf, 0xa9, 0xfd, 0x03, 0x00, 0x91, 0xff, 0x03, 0x10, 0xd1] 8 = some none := by
  decide

/-- `ldp x29, x30, [sp], #16; b target`: stopped on the `b`. -/
example : anaA64 (wordBytes (EpiInsn.ldp .post 29 30 2).enc ++ wordBytes (EpiEnd.b 64).enc) 4 =
    some (some .noOp) := by decide

end FH
