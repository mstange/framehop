import FH.Props.C05
import FH.Hist
import FH.Props.C06
/-!
# C01 — DWARF CFI unwinding recovers the true call chain at every instruction

A *true call chain* is a list of frames, each with the row the CFI gives for the address the
frame is stopped at and the registers the thread has there, such that the DWARF meaning of
each row on its frame's registers is exactly the next frame (`ExactChain…`; the root's row
declares the return address undefined). The harness's program generator produces such chains
for every instruction boundary of the supported function shapes, and the Lean driver
re-validates each generated step with `dwarfSpec` before it is used as ground truth.
-/
namespace FH

/-- What `unwind_frame` does on a cache miss for an address whose module yields `row`. -/
def stepRow (A : Arch) (row : Row) (first : Bool) (regs : A.Regs) (mem : Mem) : Out A.Regs :=
  match A.translate row with
  | some r => A.exec r first regs mem
  | none =>
    match A.generic row first regs mem with
    | .ok ra regs' => .ret (resOfRa ra) regs'
    | .err _ => A.exec A.fallback first regs mem
    | .panic s => .panic s

/-- `unwind_frame` with a fresh cache is `stepRow` of the row the module's CFI resolves to. -/
theorem unwindFrame_fresh_is_stepRow (A : Arch) (N : Nat) (u : Unw) (addr : FrameAddr)
    (regs : A.Regs) (mem : Mem) (i rel : Nat) (m : Module) (pres : Pres) (fdes : List Fde) (row : Row)
    (hf : findModule u.mods addr.lookup = some (i, rel)) (hm : u.mods[i]? = some m)
    (hd : m.data = .dwarf pres fdes) (hl : dwarfLookup pres fdes m.baseSvma rel = .row row) :
    (unwindFrame A N u Cache.empty addr regs mem).2 = stepRow A row (!addr.isReturn) regs mem := by
  rw [unwindFrame_empty]
  unfold missPath stepRow
  simp only [hf, hm, plan, hd, hl]
  cases A.translate row with
  | some r => rfl
  | none =>
    simp only []
    cases A.generic row (!addr.isReturn) regs mem <;> rfl

/-- One exact step, x86-64: if the row's DWARF meaning on the frame's registers is
`(ra, cfa, fp')` on a real stack (non-null return address, the CFA fits and lies above the
stack pointer or the frame is the first with some progress, a non-null frame pointer where the
row is the frame pointer row), the step yields exactly that. -/
theorem C01_x64_exact_step (row : Row) (first : Bool) (regs : RegsX64) (mem : Mem) (ra : Nat)
    (cfa : Int) (fp' : Nat) (hrow : row.WF) (hregs : regs.WF)
    (hs : dwarfSpec row regs.sp regs.bp regs.ip mem = .step ra cfa fp')
    (hcfa : 0 ≤ cfa ∧ cfa < 18446744073709551616) (hra : ra ≠ 0)
    (hadv : ¬(cfa = regs.sp ∧ ra = regs.ip)) (hcaller : first = false → (regs.sp : Int) < cfa)
    (hfp : translateX64 row = some .useFramePointer → regs.bp ≠ 0 ∧ (regs.sp : Int) < cfa) :
    stepRow archX64 row first regs mem = .ret (.frame ra) (afterX64 regs ra cfa.toNat fp') := by
  unfold stepRow
  cases ht : archX64.translate row with
  | some r =>
    simp only []
    exact C05_x64_compressed_rule_is_dwarf_step row r first regs mem ra cfa fp' hrow hregs ht hs hcfa hra hadv
      (fun e => hfp (by rw [← e]; exact ht))
  | none =>
    simp only []
    have := C05_x64_generic_is_dwarf_step row first regs mem ra cfa fp' hrow hregs hs hcfa hadv hcaller
    have e : archX64.generic row first regs mem = genericX64 row first regs mem := rfl
    rw [e, this]
    simp [resOfRa, hra]

/-- The root: a row declaring the return address undefined completes the walk. -/
theorem C01_x64_root_completes (row : Row) (first : Bool) (regs : RegsX64) (mem : Mem)
    (h : row.ra = .undefined) : stepRow archX64 row first regs mem = .ret .done regs := by
  have ht : archX64.translate row = some .endOfStack := by
    show translateX64 row = some RuleX64.endOfStack
    simp [translateX64, h]
  simp only [stepRow, ht]
  rfl

/-- A true call chain (x86-64): rows with the registers of each frame, innermost first. -/
inductive ExactChainX64 (mem : Mem) : Bool → List Row → RegsX64 → List Nat → Prop where
  | root (first : Bool) (row : Row) (regs : RegsX64) (h : row.ra = .undefined) :
      ExactChainX64 mem first [row] regs []
  | step (first : Bool) (row : Row) (rows : List Row) (regs : RegsX64) (ra : Nat) (cfa : Int)
      (fp' : Nat) (ras : List Nat) (hrow : row.WF) (hregs : regs.WF)
      (hs : dwarfSpec row regs.sp regs.bp regs.ip mem = .step ra cfa fp')
      (hcfa : 0 ≤ cfa ∧ cfa < 18446744073709551616) (hra : ra ≠ 0)
      (hadv : ¬(cfa = regs.sp ∧ ra = regs.ip)) (hcaller : first = false → (regs.sp : Int) < cfa)
      (hfp : translateX64 row = some .useFramePointer → regs.bp ≠ 0 ∧ (regs.sp : Int) < cfa)
      (tail : ExactChainX64 mem false rows (afterX64 regs ra cfa.toNat fp') ras) :
      ExactChainX64 mem first (row :: rows) regs (ra :: ras)

/-- The walk over the rows of a chain. -/
def walkX64 (mem : Mem) : Bool → List Row → RegsX64 → List Res
  | _, [], _ => []
  | first, row :: rows, regs =>
    match stepRow archX64 row first regs mem with
    | .ret (.frame ra) regs' => .frame ra :: walkX64 mem false rows regs'
    | .ret r _ => [r]
    | .panic _ => []

/-- **C01 (x86-64).** Walking a true call chain yields exactly its return addresses — each
step leaving the caller's registers, as `ExactChainX64.step` demands of the next frame — and
completes with `Ok(None)` at the root. Chains are unbounded in depth; rows and registers are
arbitrary within the C05 domain. -/
theorem C01_x64_walk (mem : Mem) (first : Bool) (rows : List Row) (regs : RegsX64) (ras : List Nat)
    (h : ExactChainX64 mem first rows regs ras) :
    walkX64 mem first rows regs = ras.map .frame ++ [.done] := by
  induction h with
  | root first row regs h =>
    simp [walkX64, C01_x64_root_completes row first regs mem h]
  | step first row rows regs ra cfa fp' ras hrow hregs hs hcfa hra hadv hcaller hfp tail ih =>
    simp only [walkX64, C01_x64_exact_step row first regs mem ra cfa fp' hrow hregs hs hcfa hra hadv
      hcaller hfp, List.map_cons, List.cons_append]
    rw [ih]

/-- One exact step, aarch64. `raRaw` is the (possibly signed) word DWARF prescribes; the
reported address is stripped. In caller frames the row must restore `lr` from a slot and say
how to recover `fp` (framehop's requirements on caller frames); for frame pointer based CFAs
the usual frame record sanity must hold. -/
theorem C01_a64_exact_step (row : Row) (first : Bool) (regs : RegsA64) (mem : Mem) (raRaw : Nat)
    (cfa : Int) (fp' : Nat) (hrow : row.WF) (hregs : regs.WF)
    (hs : dwarfSpec row regs.sp regs.fp regs.lr mem = .step raRaw cfa fp')
    (hcfa : 0 ≤ cfa ∧ cfa < 18446744073709551616) (hra : strip regs.mask raRaw ≠ 0)
    (hcaller : first = false → (regs.sp : Int) < cfa ∧ (∃ n, row.ra = .offset n) ∧ row.fp ≠ .undefined)
    (hfp : (∃ off, row.cfa = .regOff .fp off) → fp' ≠ 0 ∧ regs.fp < fp' ∧ (regs.sp : Int) < cfa) :
    stepRow archA64 row first regs mem =
      .ret (.frame (strip regs.mask raRaw)) (afterA64 regs raRaw cfa.toNat fp') := by
  unfold stepRow
  cases ht : archA64.translate row with
  | some r =>
    simp only []
    exact C05_a64_compressed_rule_is_dwarf_step row r first regs mem raRaw cfa fp' hrow hregs ht hs hcfa hra
      (fun e => ⟨(hcaller e).1, (hcaller e).2.1⟩) hfp
  | none =>
    simp only []
    have := C05_a64_generic_is_dwarf_step row first regs mem raRaw cfa fp' hrow hregs hs hcfa
      (fun e => ⟨(hcaller e).1, (hcaller e).2.2⟩)
    have e : archA64.generic row first regs mem = genericA64 row first regs mem := rfl
    rw [e, this]
    simp [resOfRa, hra]

theorem translateA64_of_undefined_ra {row : Row} {r : RuleA64} (h : row.ra = .undefined)
    (ht : translateA64 row = some r) : ∃ k, r = .offsetSpIfFirstFrameOtherwiseStackEndsHere k := by
  -- every other way of compressing a row fixes `row.ra` to `same value` or a slot
  cases translateA64_some ht with
  | stackEnds => exact ⟨_, rfl⟩
  | offsetSp _ _ hra | restoreLr _ _ hra | restoreFpLr _ _ hra | useFramePointer _ hra
  | fpOffsets _ _ hra => rw [h] at hra; cases hra

/-- The aarch64 root, reached as a caller frame: a row declaring the return address undefined
completes the walk, whether or not the row is compressed into a rule. (In the *first* frame
framehop deliberately treats such a row as same-value - known finding F14.) -/
theorem C01_a64_root_completes (row : Row) (regs : RegsA64) (mem : Mem)
    (h : row.ra = .undefined) : stepRow archA64 row false regs mem = .ret .done regs := by
  unfold stepRow
  cases ht : archA64.translate row with
  | none =>
    have e : archA64.generic row false regs mem = .ok 0 regs := by
      show genericA64 row false regs mem = _
      unfold genericA64
      rw [if_pos (by simp [h])]
      rfl
    simp only [e]
    rfl
  | some r =>
    obtain ⟨k, hk⟩ := translateA64_of_undefined_ra h ht
    subst hk
    simp only []
    show execA64 (.offsetSpIfFirstFrameOtherwiseStackEndsHere k) false regs mem = _
    simp only [execA64, Bool.not_false, if_true]
    rfl

/-- A true call chain (aarch64): rows with the registers of each frame, innermost first; the
root is reached as a caller frame. -/
inductive ExactChainA64 (mem : Mem) : Bool → List Row → RegsA64 → List Nat → Prop where
  | root (row : Row) (regs : RegsA64) (h : row.ra = .undefined) :
      ExactChainA64 mem false [row] regs []
  | step (first : Bool) (row : Row) (rows : List Row) (regs : RegsA64) (raRaw : Nat) (cfa : Int)
      (fp' : Nat) (ras : List Nat) (hrow : row.WF) (hregs : regs.WF)
      (hs : dwarfSpec row regs.sp regs.fp regs.lr mem = .step raRaw cfa fp')
      (hcfa : 0 ≤ cfa ∧ cfa < 18446744073709551616) (hra : strip regs.mask raRaw ≠ 0)
      (hcaller : first = false →
        (regs.sp : Int) < cfa ∧ (∃ n, row.ra = .offset n) ∧ row.fp ≠ .undefined)
      (hfp : (∃ off, row.cfa = .regOff .fp off) → fp' ≠ 0 ∧ regs.fp < fp' ∧ (regs.sp : Int) < cfa)
      (tail : ExactChainA64 mem false rows (afterA64 regs raRaw cfa.toNat fp') ras) :
      ExactChainA64 mem first (row :: rows) regs (strip regs.mask raRaw :: ras)

def walkA64 (mem : Mem) : Bool → List Row → RegsA64 → List Res
  | _, [], _ => []
  | first, row :: rows, regs =>
    match stepRow archA64 row first regs mem with
    | .ret (.frame ra) regs' => .frame ra :: walkA64 mem false rows regs'
    | .ret r _ => [r]
    | .panic _ => []

/-- **C01 (aarch64).** Walking a true call chain yields exactly its (stripped) return addresses,
with the caller's registers after each step, and completes with `Ok(None)` at the root. -/
theorem C01_a64_walk (mem : Mem) (first : Bool) (rows : List Row) (regs : RegsA64) (ras : List Nat)
    (h : ExactChainA64 mem first rows regs ras) :
    walkA64 mem first rows regs = ras.map .frame ++ [.done] := by
  induction h with
  | root row regs h =>
    simp [walkA64, C01_a64_root_completes row regs mem h]
  | step first row rows regs raRaw cfa fp' ras hrow hregs hs hcfa hra hcaller hfp tail ih =>
    simp only [walkA64, C01_a64_exact_step row first regs mem raRaw cfa fp' hrow hregs hs hcfa hra
      hcaller hfp, List.map_cons, List.cons_append]
    rw [ih]

/-- With any cache a history can have produced, the step is the same (C06). -/
theorem C01_cache_state_is_irrelevant (A : Arch) (N : Nat) (kind : Nat → Bool) (c0 : Nat)
    (ops : List (HOp A)) (hd : (ops.map drawsOf).sum < U16)
    (hc : ∀ op ∈ ops, op.Consistent kind)
    (i : Nat) (u : Unw) (hu : (hrun A N (HWorld.init A c0) ops).unws[i]? = some u)
    (addr : FrameAddr) (hk : kind addr.lookup = !addr.isReturn) (regs : A.Regs) (mem : Mem) :
    (unwindFrame A N u (hrun A N (HWorld.init A c0) ops).cache addr regs mem).2 =
      (unwindFrame A N u Cache.empty addr regs mem).2 :=
  C06_cache_transparency A N kind c0 ops hd hc i u hu addr hk regs mem

-- Non-vacuity: a two-frame chain (leaf called from the root) on a concrete stack.
example :
    let mem : Mem := fun a => if a = 0x1000 then some 0x401234 else none
    let leaf : Row := { cfa := .regOff .sp 8, fp := .sameValue, ra := .offset (-8) }
    let root : Row := { cfa := .regOff .sp 8, fp := .sameValue, ra := .undefined }
    let regs : RegsX64 := ⟨0x400100, fun i => if i = RSP then 0x1000 else 0⟩
    walkX64 mem true [leaf, root] regs = [.frame 0x401234, .done] := by
  decide

-- Non-vacuity (aarch64): a leaf interrupted in its body, called from the root.
example :
    let mem : Mem := fun _ => none
    let leaf : Row := { cfa := .regOff .sp 0, fp := .sameValue, ra := .sameValue }
    let root : Row := { cfa := .regOff .sp 16, fp := .sameValue, ra := .undefined }
    let regs : RegsA64 := { mask := 0xffffffffffff, lr := 0x100234, sp := 0x7000, fp := 0x7100 }
    walkA64 mem true [leaf, root] regs = [.frame 0x100234, .done] := by
  decide

end FH
