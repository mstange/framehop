import FH.DwarfSpec
import FH.World
/-!
# C05 — One DWARF step equals DWARF semantics of the row; rule compression is lossless

`dwarfSpec` is the meaning of a row over mathematical integers (CFA = register + offset;
return address / frame pointer `undefined`, `same value` or saved at a CFA-relative slot).
framehop deliberately refuses some steps DWARF would allow (null return address = end of
stack, no progress, caller frames that do not move the stack pointer, values that do not fit
64 bits, frame-pointer sanity checks); these refusals are the explicit hypotheses.
-/
namespace FH

/-- x86-64, compressed rows: executing the cacheable rule is exactly the DWARF step. -/
theorem C05_x64_compressed_rule_is_dwarf_step (row : Row) (rule : RuleX64) (first : Bool)
    (regs : RegsX64) (mem : Mem) (ra : Nat) (cfa : Int) (fp' : Nat) (hrow : row.WF)
    (hregs : regs.WF) (ht : translateX64 row = some rule)
    (hs : dwarfSpec row regs.sp regs.bp regs.ip mem = .step ra cfa fp')
    (hcfa : 0 ≤ cfa ∧ cfa < 18446744073709551616) (hra : ra ≠ 0)
    (hadv : ¬(cfa = regs.sp ∧ ra = regs.ip))
    (hfp : rule = .useFramePointer → regs.bp ≠ 0 ∧ (regs.sp : Int) < cfa) :
    execX64 rule first regs mem = .ret (.frame ra) (afterX64 regs ra cfa.toNat fp') := by
  have hsp : regs.sp < U64 := hregs.2 RSP
  have hbp : regs.bp < U64 := hregs.2 RBP
  -- what the specification says, then the shape of the row; per rule: its step equation on the
  -- slots the specification reads, and the common tail
  obtain ⟨hc, hne, hr, hf⟩ := dwarfSpec_step hs
  cases translateX64_some ht with
  | endOfStack h => exact absurd h hne
  | @offsetSp off k hra8 hcfa' hk hnone =>
    obtain ⟨hk8, _⟩ := exactDivU16_some hk
    rw [hcfa'] at hc; cases hc
    rw [hra8] at hr
    rw [specReg_of_none hnone] at hf; cases hf
    obtain ⟨hlt, e⟩ := scaled_offset (g := 8) hk8 hcfa
    rw [execX64_offsetSp hlt, e]
    exact finishX64_spec (Option.some.inj hr) hra hadv
  | @restoreBp off b s k hra8 hcfa' hk hfp' hsd =>
    obtain ⟨hk8, _⟩ := exactDivU16_some hk
    rw [hcfa'] at hc; cases hc
    rw [hra8] at hr
    rw [hfp'] at hf
    obtain ⟨hlt, e⟩ := scaled_offset (g := 8) hk8 hcfa
    obtain ⟨hi, loc, hl, hm⟩ := rule_slot hsp (exactSumDiv8I16_some hsd) (Option.some.inj hf)
    rw [execX64_offsetSpAndRestoreBp hlt hi hl hm, e]
    exact finishX64_spec (Option.some.inj hr) hra hadv
  | useFramePointer hra8 hcfa' hfp' =>
    obtain ⟨hbp0, hgt⟩ := hfp rfl
    rw [hcfa'] at hc; cases hc
    rw [hra8] at hr
    rw [hfp'] at hf
    obtain ⟨_, _, hm⟩ := readAt_some (Option.some.inj hf)
    have e0 : ((regs.bp : Int) + 16 + -16).toNat = regs.bp := by omega
    have e : regs.bp + 16 = ((regs.bp : Int) + 16).toNat := by omega
    rw [e0] at hm
    show fpStepX64 regs mem = _
    rw [fpStepX64_eq hbp0 (by unfold U64; omega) (by omega) hm, e]
    exact finishX64_spec (Option.some.inj hr) hra hadv

/-- x86-64, generic evaluation: exactly the DWARF step as well. -/
theorem C05_x64_generic_is_dwarf_step (row : Row) (first : Bool) (regs : RegsX64) (mem : Mem)
    (ra : Nat) (cfa : Int) (fp' : Nat) (hrow : row.WF) (hregs : regs.WF)
    (hs : dwarfSpec row regs.sp regs.bp regs.ip mem = .step ra cfa fp')
    (hcfa : 0 ≤ cfa ∧ cfa < 18446744073709551616) (hadv : ¬(cfa = regs.sp ∧ ra = regs.ip))
    (hcaller : first = false → (regs.sp : Int) < cfa) :
    genericX64 row first regs mem = .ok ra (afterX64 regs ra cfa.toNat fp') := by
  obtain ⟨hwc, hwf, hwr⟩ := hrow
  obtain ⟨hc, hne, hr, hf⟩ := dwarfSpec_step hs
  have h1 : ¬(cfa.toNat = regs.sp ∧ ra = regs.ip) := fun ⟨a, b⟩ => hadv ⟨by omega, b⟩
  have h2 : ¬((!first) = true ∧ cfa.toNat ≤ regs.sp) := fun ⟨a, b⟩ => by
    have := hcaller (by simpa using a); omega
  simp only [genericX64, evalCfa_spec (get := getX64 regs) rfl rfl (hregs.2 RSP) (hregs.2 RBP) hwc hc hcfa,
    evalRegRule_spec hcfa hwf hf, evalRegRule_spec_some hcfa hwr hne hr, h1, h2, if_false, afterX64_eq]

/-- x86-64: whether a row is compressed or evaluated generically cannot change the outcome
(both paths produce the same address and the same register file). -/
theorem C05_x64_paths_agree (row : Row) (rule : RuleX64) (first : Bool) (regs : RegsX64)
    (mem : Mem) (ra : Nat) (cfa : Int) (fp' : Nat) (hrow : row.WF) (hregs : regs.WF)
    (ht : translateX64 row = some rule)
    (hs : dwarfSpec row regs.sp regs.bp regs.ip mem = .step ra cfa fp')
    (hcfa : 0 ≤ cfa ∧ cfa < 18446744073709551616) (hra : ra ≠ 0)
    (hadv : ¬(cfa = regs.sp ∧ ra = regs.ip)) (hcaller : first = false → (regs.sp : Int) < cfa)
    (hfp : rule = .useFramePointer → regs.bp ≠ 0 ∧ (regs.sp : Int) < cfa) :
    ∃ regs', execX64 rule first regs mem = .ret (.frame ra) regs' ∧
      genericX64 row first regs mem = .ok ra regs' :=
  ⟨_, C05_x64_compressed_rule_is_dwarf_step row rule first regs mem ra cfa fp' hrow hregs ht hs hcfa
      hra hadv hfp,
    C05_x64_generic_is_dwarf_step row first regs mem ra cfa fp' hrow hregs hs hcfa hadv hcaller⟩

/-- x86-64: "return address undefined" is the end of the stack, whatever the rest of the row. -/
theorem C05_x64_undefined_ra_ends_stack (row : Row) (first : Bool) (regs : RegsX64) (mem : Mem)
    (h : row.ra = .undefined) :
    translateX64 row = some .endOfStack ∧ execX64 .endOfStack first regs mem = .ret .done regs := by
  simp [translateX64, h, execX64]

/-- aarch64, compressed rows. `raRaw` is the word DWARF prescribes for the return address;
framehop reports it with the pointer-authentication bits stripped (C16). -/
theorem C05_a64_compressed_rule_is_dwarf_step (row : Row) (rule : RuleA64) (first : Bool)
    (regs : RegsA64) (mem : Mem) (raRaw : Nat) (cfa : Int) (fp' : Nat) (hrow : row.WF)
    (hregs : regs.WF) (ht : translateA64 row = some rule)
    (hs : dwarfSpec row regs.sp regs.fp regs.lr mem = .step raRaw cfa fp')
    (hcfa : 0 ≤ cfa ∧ cfa < 18446744073709551616) (hra : strip regs.mask raRaw ≠ 0)
    (hcaller : first = false → (regs.sp : Int) < cfa ∧ ∃ n, row.ra = .offset n)
    (hfp : (∃ off, row.cfa = .regOff .fp off) → fp' ≠ 0 ∧ regs.fp < fp' ∧ (regs.sp : Int) < cfa) :
    execA64 rule first regs mem =
      .ret (.frame (strip regs.mask raRaw)) (afterA64 regs raRaw cfa.toNat fp') := by
  obtain ⟨_, _, hsp, hfpl⟩ := hregs
  obtain ⟨hc, hne, hr, hf⟩ := dwarfSpec_step hs
  have adv : first = false → cfa.toNat ≠ regs.sp := fun h => by have := (hcaller h).1; omega
  cases translateA64_some ht with
  | stackEnds _ _ h _ => exact absurd h hne
  | @offsetSp off k hcfa' hk hra' hnone =>
    obtain ⟨hk16, _⟩ := exactDivU16_some hk
    rw [hcfa'] at hc; cases hc
    rw [hra'] at hr; cases hr
    rw [specReg_of_none hnone] at hf; cases hf
    -- `lr` is not restored: only possible in the first frame
    obtain rfl : first = true := by
      cases first
      · obtain ⟨_, n, hn⟩ := hcaller rfl; rw [hra'] at hn; cases hn
      · rfl
    obtain ⟨hlt, e⟩ := scaled_offset (g := 16) hk16 hcfa
    rw [execA64_offsetSp hlt, e]
    exact finishA64_ok hra adv
  | @restoreLr off l lo k hcfa' hk hra' hnone hlo =>
    obtain ⟨hk16, _⟩ := exactDivU16_some hk
    have hlo := exactSumDiv8I16_some hlo
    rw [hcfa'] at hc; cases hc
    rw [hra'] at hr
    rw [specReg_of_none hnone] at hf; cases hf
    obtain ⟨hli, loc, h1, h2⟩ := rule_slot hsp hlo (Option.some.inj hr)
    obtain ⟨hlt, e⟩ := scaled_offset (g := 16) hk16 hcfa
    rw [execA64_offsetSpAndRestoreLr hlt hli h1 h2, e]
    exact finishA64_ok hra adv
  | @restoreFpLr off l lo f fo k hcfa' hk hra' hfp' hlo hfo =>
    obtain ⟨hk16, _⟩ := exactDivU16_some hk
    have hlo := exactSumDiv8I16_some hlo
    have hfo := exactSumDiv8I16_some hfo
    rw [hcfa'] at hc; cases hc
    rw [hra'] at hr
    rw [hfp'] at hf
    obtain ⟨hli, loc, h1, h2⟩ := rule_slot hsp hlo (Option.some.inj hr)
    obtain ⟨hfi, floc, f1, f2⟩ := rule_slot hsp hfo (Option.some.inj hf)
    obtain ⟨hlt, e⟩ := scaled_offset (g := 16) hk16 hcfa
    rw [execA64_offsetSpAndRestoreFpAndLr hlt hli hfi h1 h2 f1 f2, e]
    exact finishA64_ok hra adv
  | useFramePointer hcfa' hra' hfp' =>
    obtain ⟨hfp0, hfpgt, hspgt⟩ := hfp ⟨_, hcfa'⟩
    rw [hcfa'] at hc; cases hc
    rw [hra'] at hr
    rw [hfp'] at hf
    obtain ⟨_, _, r3⟩ := readAt_some (Option.some.inj hr)
    obtain ⟨_, _, b3⟩ := readAt_some (Option.some.inj hf)
    rw [show ((regs.fp : Int) + 16 + -8).toNat = regs.fp + 8 by omega] at r3
    rw [show ((regs.fp : Int) + 16 + -16).toNat = regs.fp by omega] at b3
    rw [execA64_useFramePointer (by unfold U64; omega) r3 b3 hfp0 hfpgt (by omega),
      show regs.fp + 16 = ((regs.fp : Int) + 16).toNat by omega]
    exact finishA64_ok hra adv
  | @fpOffsets off l lo f fo k hcfa' hk hra' hfp' hlo hfo =>
    obtain ⟨hfp0, hfpgt, hspgt⟩ := hfp ⟨_, hcfa'⟩
    obtain ⟨hk8, _⟩ := exactDivU16_some hk
    have hlo := exactSumDiv8I16_some hlo
    have hfo := exactSumDiv8I16_some hfo
    rw [hcfa'] at hc; cases hc
    rw [hra'] at hr
    rw [hfp'] at hf
    obtain ⟨hli, loc, h1, h2⟩ := rule_slot hfpl hlo (Option.some.inj hr)
    obtain ⟨hfi, floc, f1, f2⟩ := rule_slot hfpl hfo (Option.some.inj hf)
    obtain ⟨hlt, e⟩ := scaled_offset (g := 8) hk8 hcfa
    rw [execA64_useFramepointerWithOffsets hlt hli hfi h1 h2 f1 f2 hfp0 hfpgt (by omega), e]
    exact finishA64_ok hra adv

/-- aarch64, generic evaluation. -/
theorem C05_a64_generic_is_dwarf_step (row : Row) (first : Bool) (regs : RegsA64) (mem : Mem)
    (raRaw : Nat) (cfa : Int) (fp' : Nat) (hrow : row.WF) (hregs : regs.WF)
    (hs : dwarfSpec row regs.sp regs.fp regs.lr mem = .step raRaw cfa fp')
    (hcfa : 0 ≤ cfa ∧ cfa < 18446744073709551616)
    (hcaller : first = false → (regs.sp : Int) < cfa ∧ row.fp ≠ .undefined) :
    genericA64 row first regs mem =
      .ok (strip regs.mask raRaw) (afterA64 regs raRaw cfa.toNat fp') := by
  obtain ⟨hwc, hwf, hwr⟩ := hrow
  obtain ⟨_, _, hsp, hfpl⟩ := hregs
  obtain ⟨hc, hne, hr, hf⟩ := dwarfSpec_step hs
  have hnroot : ¬((!first) = true ∧ row.ra = .undefined) := fun h => hne h.2
  simp only [genericA64, hnroot, if_false,
    evalCfa_spec (get := getA64 regs) rfl rfl hsp hfpl hwc hc hcfa,
    evalRegRule_spec_some hcfa hwr hne hr]
  cases first with
  | true => simp only [evalRegRule_spec hcfa hwf hf]; rfl
  | false =>
    obtain ⟨hgt, hfne⟩ := hcaller rfl
    have hnle : ¬(cfa.toNat ≤ regs.sp) := by omega
    simp only [Bool.not_false, if_true, hnle, if_false, evalRegRule_spec_some hcfa hwf hfne hf]
    rfl

/-- aarch64, caller frames: a stack-pointer based row with an undefined return address ends
the stack. -/
theorem C05_a64_undefined_ra_ends_stack_in_caller_frames (row : Row) (off : Int) (k : Nat)
    (regs : RegsA64) (mem : Mem) (hc : row.cfa = .regOff .sp off) (hk : exactDivU16 off 16 = some k)
    (hra : row.ra = .undefined) (hfp : regRuleToCfaOffset row.fp = .none) :
    translateA64 row = some (.offsetSpIfFirstFrameOtherwiseStackEndsHere k) ∧
      execA64 (.offsetSpIfFirstFrameOtherwiseStackEndsHere k) false regs mem = .ret .done regs := by
  have hrl : regRuleToCfaOffset row.ra = .none := by simp [regRuleToCfaOffset, hra]
  refine ⟨?_, by simp [execA64]⟩
  unfold translateA64
  simp only [hc, hk, hrl, hfp]
  simp [hra]

/-- aarch64, caller frames, rows that are not compressed: an undefined return address ends the
stack as well (the generic path hands back a null return address, which `with_cache` turns
into `Ok(None)`; registers untouched). -/
theorem C05_a64_generic_undefined_ra_ends_stack_in_caller_frames (row : Row) (regs : RegsA64)
    (mem : Mem) (hra : row.ra = .undefined) :
    genericA64 row false regs mem = .ok 0 regs ∧ resOfRa 0 = .done := by
  simp [genericA64, hra, resOfRa]

/-- **Recorded finding (F14), as a theorem about the model**: in the *first* frame aarch64
treats an undefined return address as "same value" (a documented choice in the source:
gimli cannot tell an omitted column from `DW_CFA_undefined`), so the step reports `lr`
instead of ending the stack as DWARF prescribes. -/
theorem C05_a64_first_frame_undefined_ra_counterexample :
    let row : Row := { cfa := .regOff .sp 16, fp := .sameValue, ra := .undefined }
    let regs : RegsA64 := { mask := U64 - 1, lr := 0x1234, sp := 0x1000, fp := 0x2000 }
    dwarfSpec row regs.sp regs.fp regs.lr (fun _ => none) = .endOfStack ∧
    translateA64 row = some (.offsetSpIfFirstFrameOtherwiseStackEndsHere 1) ∧
    ∃ regs', execA64 (.offsetSpIfFirstFrameOtherwiseStackEndsHere 1) true regs (fun _ => none) =
      .ret (.frame 0x1234) regs' := by
  refine ⟨rfl, by decide, _, rfl⟩

-- Non-vacuity: a frame-pointer row on a concrete stack satisfies every hypothesis of the
-- compressed-rule theorem.
example :
    let row : Row := { cfa := .regOff .fp 16, fp := .offset (-16), ra := .offset (-8) }
    let mem : Mem := fun a => if a = 0x28 then some 0x100200 else if a = 0x20 then some 0x40 else none
    translateX64 row = some .useFramePointer ∧
      dwarfSpec row 0x18 0x20 0x100300 mem = .step 0x100200 0x30 0x40 := by
  refine ⟨by decide, ?_⟩
  simp [dwarfSpec, dwarfSpec.go, readAt, specReg]

end FH
