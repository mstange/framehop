import FH.ModuleLemmas
import FH.Hist
/-!
# C07 — an address is unwound with the data of the module that contains it, and only with it

`C07.lean` states what `find_module_for_address` returns. This file carries that through the
whole miss path of `unwind_frame`: the outcome of a call (rule to cache + result + registers)
for an address inside a registered module is a function of *that module alone* - the other
registered modules, their number, their data, the position of the module in the list and the
unwinder's identity do not enter. (A memo that lets a lookup in one module answer a lookup in
another, seeded changes C12-10 and C02-11, is exactly a violation of this.)
-/
namespace FH

/-- What the miss path does given only the module the address belongs to. -/
def missPathIn (A : Arch) (m : Module) (addr : FrameAddr) (regs : A.Regs) (mem : Mem) :
    Option A.Rule × Out A.Regs :=
  let la := addr.lookup
  let first := !addr.isReturn
  if la < m.baseAvma then (some A.fallback, A.exec A.fallback first regs mem)
  else if la - m.baseAvma < U32 then
    match plan A m (la - m.baseAvma) first with
    | .exec r => (some r, A.exec r first regs mem)
    | .staticErr => (some A.fallback, A.exec A.fallback first regs mem)
    | .panic => (none, .panic (.other 5))
    | .generic row =>
      match A.generic row first regs mem with
      | .ok ra regs' => (none, .ret (resOfRa ra) regs')
      | .err _ => (none, A.exec A.fallback first regs mem)
      | .panic s => (none, .panic s)
    | .pe p =>
      match A.peRun p first regs mem with
      | .ok ra regs' => (none, .ret (resOfRa ra) regs')
      | .err _ => (none, A.exec A.fallback first regs mem)
      | .panic s => (none, .panic s)
  else (some A.fallback, A.exec A.fallback first regs mem)

theorem missPathIn_eq (A : Arch) (m : Module) (addr : FrameAddr) (regs : A.Regs) (mem : Mem) :
    missPathIn A m addr regs mem =
      if addr.lookup < m.baseAvma then runPlan A (!addr.isReturn) regs mem .staticErr
      else if addr.lookup - m.baseAvma < U32 then
        runPlan A (!addr.isReturn) regs mem (plan A m (addr.lookup - m.baseAvma) (!addr.isReturn))
      else runPlan A (!addr.isReturn) regs mem .staticErr :=
  rfl

/-- The miss path for an address inside a registered module is determined by that module. -/
theorem C07_unwound_with_the_containing_module (A : Arch) (u : Unw) (h : NonOverlap u.mods)
    (j : Nat) (m : Module) (hm : u.mods[j]? = some m) (addr : FrameAddr)
    (hc : m.contains addr.lookup) (regs : A.Regs) (mem : Mem) :
    missPath A u addr regs mem = missPathIn A m addr regs mem := by
  rw [missPath_eq, missPathIn_eq, planAt, findModule_complete u.mods h addr.lookup j m hm hc]
  by_cases h1 : addr.lookup < m.baseAvma
  · simp only [if_pos h1]
  · by_cases h2 : addr.lookup - m.baseAvma < U32
    · simp only [if_neg h1, if_pos h2, hm]
    · simp only [if_neg h1, if_neg h2]

/-- Two unwinders that both hold a module (whatever else they hold, in whatever order it was
added, whatever their identities) unwind every address inside it alike. -/
theorem C07_other_modules_do_not_matter (A : Arch) (u₁ u₂ : Unw)
    (h₁ : NonOverlap u₁.mods) (h₂ : NonOverlap u₂.mods) (m : Module)
    (hm₁ : m ∈ u₁.mods) (hm₂ : m ∈ u₂.mods) (addr : FrameAddr)
    (hc : m.contains addr.lookup) (regs : A.Regs) (mem : Mem) :
    missPath A u₁ addr regs mem = missPath A u₂ addr regs mem := by
  obtain ⟨j₁, hj₁⟩ := List.getElem?_of_mem hm₁
  obtain ⟨j₂, hj₂⟩ := List.getElem?_of_mem hm₂
  rw [C07_unwound_with_the_containing_module A u₁ h₁ j₁ m hj₁ addr hc,
    C07_unwound_with_the_containing_module A u₂ h₂ j₂ m hj₂ addr hc]

/-- Adding a module elsewhere changes nothing for the addresses of a module already there. -/
theorem C07_add_elsewhere_changes_nothing (A : Arch) (u : Unw) (h : NonOverlap u.mods)
    (m x : Module) (hm : m ∈ u.mods) (hx : x.start < x.stop)
    (hd : ∀ y ∈ u.mods, y.stop ≤ x.start ∨ x.stop ≤ y.start) (g : Nat) (addr : FrameAddr)
    (hc : m.contains addr.lookup) (regs : A.Regs) (mem : Mem) :
    missPath A ⟨addModule u.mods x, g⟩ addr regs mem = missPath A u addr regs mem := by
  have ha := addModule_nonOverlap u.mods x h hx hd
  exact C07_other_modules_do_not_matter A ⟨addModule u.mods x, g⟩ u ha.1 h m
    ((ha.2 m).2 (Or.inr hm)) hm addr hc regs mem

/-- An address no registered module contains is unwound with no module's data: the fallback
rule, cached - for any module list whatsoever. -/
theorem C07_unwound_with_no_module (A : Arch) (u : Unw) (addr : FrameAddr)
    (hn : ∀ m ∈ u.mods, ¬ m.contains addr.lookup) (regs : A.Regs) (mem : Mem) :
    missPath A u addr regs mem =
      (some A.fallback, A.exec A.fallback (!addr.isReturn) regs mem) := by
  rw [missPath_eq, planAt_of_none (findModule_none u.mods addr.lookup hn)]
  rfl

-- Non-vacuity: a module list with two modules, an address inside the second one.
example : ∃ (mods : List Module) (m : Module), NonOverlap mods ∧ mods[1]? = some m ∧
    m.contains (FrameAddr.ret 0x2001).lookup := by
  refine ⟨[⟨0x1000, 0x2000, 0x800, 0, .none⟩, ⟨0x2000, 0x2800, 0x2000, 0, .none⟩], _,
    ⟨by simp, ?_⟩, rfl, by simp [Module.contains, FrameAddr.lookup]⟩
  intro m hm
  simp at hm
  rcases hm with rfl | rfl <;> decide

end FH
