import FH.World
import FH.Select
/-!
# C19 — Every feature combination builds and unwinds identically

**Partial by nature.** "Builds" is not a statement about any model: it is decided by building
framehop (public API only, crate `/verif/featrun`) under each of the 8 subsets of
{std, macho, pe} on every run, a failure being a violation whose replay is the feature set
and the compiler output. "Unwinds identically" is decided by running one battery of DWARF and
frame-pointer histories (both architectures, both allocation policies, same-address repeats
with failing and sane thread states, module removal, iterator walks) under all 8 builds and
in-process under the default build - the build every other engine ties to the Lean model.

What is logic, and proved here: the only place where the optional features select behaviour
is the choice of the unwind-data variant when a module is created
(`ModuleUnwindDataInternal::new`). Its model `selectUnwindData` is below; for a module that
offers neither `__unwind_info` nor `.pdata` - i.e. one that only needs DWARF or frame-pointer
unwinding - the chosen variant does not depend on the features, for all 8 subsets
(`C19_dwarf_modules_ignore_features`), and the order of preference among the DWARF
presentations is the documented one. The rest of the model (`plan`, `missPath`, the rule
cache, the iterator) has no feature parameter at all.
-/
namespace FH

/-- **Modules that only need DWARF or frame-pointer unwinding are treated identically under
every feature combination.** -/
theorem C19_dwarf_modules_ignore_features (f g : Features) (s : SectionsOffered)
    (h1 : s.unwindInfo = false) (h2 : s.pdata = false) :
    selectUnwindData f s = selectUnwindData g s := by
  simp [selectUnwindData, h1, h2]

/-- `std` never selects anything. -/
theorem C19_std_is_irrelevant (f : Features) (s : SectionsOffered) :
    selectUnwindData { f with std := true } s = selectUnwindData { f with std := false } s := rfl

/-- The preference order among the DWARF presentations (no `__unwind_info`, no `.pdata`):
`.eh_frame` + `.eh_frame_hdr`, then `.eh_frame` with an index, then `.debug_frame` with an
index, else none. -/
theorem C19_dwarf_preference (f : Features) (s : SectionsOffered)
    (h1 : s.unwindInfo = false) (h2 : s.pdata = false) :
    selectUnwindData f s =
      (if s.ehFrame ∧ s.ehFrameHdr then .ehFrameHdrAndEhFrame
       else if s.ehFrame then (if s.ehIndexBuilds then .dwarfCfiIndexAndEhFrame else .none)
       else if s.debugFrame ∧ s.debugIndexBuilds then .dwarfCfiIndexAndDebugFrame
       else .none) := by
  simp only [selectUnwindData, h1, h2, Bool.false_eq_true, and_false, if_false]
  cases s.ehFrame <;> cases s.ehFrameHdr <;> cases s.debugFrame <;> simp

/-- The statement over the whole finite table - all 8 × 8 pairs of feature sets and all 32 section
offers without `__unwind_info` / `.pdata` - is an instance of
`C19_dwarf_modules_ignore_features`. -/
theorem C19_table :
    ∀ (a b c a' b' c' e h d i j : Bool),
      selectUnwindData ⟨a, b, c⟩ ⟨false, false, e, h, d, i, j⟩ =
        selectUnwindData ⟨a', b', c'⟩ ⟨false, false, e, h, d, i, j⟩ :=
  fun _ _ _ _ _ _ _ _ _ _ _ => C19_dwarf_modules_ignore_features _ _ _ rfl rfl

/-- A module with `__unwind_info` or `.pdata` *is* treated differently without the feature
(it falls back to its DWARF sections or to nothing) - the reason the property is stated for
DWARF / frame-pointer modules only. -/
example : selectUnwindData ⟨true, false, true⟩ ⟨true, false, true, false, false, true, false⟩ ≠
    selectUnwindData ⟨true, true, true⟩ ⟨true, false, true, false, false, true, false⟩ := by decide

end FH
