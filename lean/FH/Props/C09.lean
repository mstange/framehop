import FH.RuleLemmas
import FH.PtrAuth
import FH.NoPanic
import FH.Hist
import FH.ModuleLemmas
/-!
# C09 — Totality on arbitrary runtime state

Rust panics are explicit `Out.panic` outcomes of the model; every model function is a
total Lean function (structural recursion), which is the "always returns" half.
The theorems quantify over *all* rule parameters in the range of the Rust field types, all
register values, all stack readers (any contents, any subset of reads failing).
-/
namespace FH

/-- x86-64 rule execution never panics: the unchecked `u64::from(k) * 8`,
`i64::from(b) * 8` cannot overflow, everything else is checked. -/
theorem C09_execX64_never_panics (rule : RuleX64) (first : Bool) (regs : RegsX64) (mem : Mem)
    (hr : rule.WF) : ∀ s, execX64 rule first regs mem ≠ .panic s :=
  fun s => execX64_no_panic rule first regs mem hr s

/-- aarch64 rule execution never panics; in particular the unchecked `fp + 8` is always
preceded by a successful `fp.checked_add(16)`. -/
theorem C09_execA64_never_panics (rule : RuleA64) (first : Bool) (regs : RegsA64) (mem : Mem)
    (hr : rule.WF) : ∀ s, execA64 rule first regs mem ≠ .panic s :=
  fun s => execA64_no_panic rule first regs mem hr s

/-- `checked_add_signed` (wrapping add + comparison, `add_signed.rs`) is exactly the
mathematical checked addition on the whole `u64 × i64` domain. -/
theorem C09_checked_add_signed_exact (a : Nat) (b : Int) (ha : a < U64)
    (hb1 : -9223372036854775808 ≤ b) (hb2 : b < 9223372036854775808) :
    caddSigned a b = caddSignedSpec a b :=
  caddSigned_eq_spec a b ha hb1 hb2

/-- `PtrAuthMask::from_max_known_address` is total (the shift amount handed to the
unchecked-looking `>>` is guarded): the model has no panic outcome and is defined for 0. -/
theorem C09_fromMaxKnown_zero : fromMaxKnown 0 = 0 := by decide

/-! ## The whole call

For every unwinder whose Mach-O opcode fields are in the range of their Rust types (`Unw.WF`;
DWARF rows, PE tables, text bytes, ranges, addresses, registers and the stack reader are
arbitrary), every rule cache holding rules in range (which every reachable cache does: the
first component of each theorem is the preservation), and every call:
`unwind_frame` has a panic outcome only where the PE operation interpreter has one - the
unchecked arithmetic of pe-unwind-info's `resolve_operation` (known finding F8-dep, third-party)
- and on aarch64 never. -/

theorem C09_unwind_frame_x64_panics_only_in_pe_interpreter (N : Nat) (u : Unw)
    (c : Cache archX64.Rule) (addr : FrameAddr) (regs : archX64.Regs) (mem : Mem) (hu : u.WF)
    (hc : CacheSafeX64 c) :
    CacheSafeX64 (unwindFrame archX64 N u c addr regs mem).1 ∧
    ∀ s, (unwindFrame archX64 N u c addr regs mem).2 = .panic s →
      ∃ i rel m p, findModule u.mods addr.lookup = some (i, rel) ∧ u.mods[i]? = some m ∧
        plan archX64 m rel (!addr.isReturn) = .pe p ∧
        peRun p (!addr.isReturn) regs mem = .panic s := by
  obtain ⟨h1, h2⟩ := unwindFrame_out (N := N) (plansAll_x64 hu) hc addr regs mem
  refine ⟨h1, fun s h => ?_⟩
  rcases h2.panicked h with ⟨r, hr, he⟩ | hp | ⟨row, hg⟩ | ⟨p, hp, hg⟩
  · exact absurd he (execX64_no_panic_safe _ _ _ _ hr s)
  · exact absurd hp (planAt_ne_panic C14_plan_x64_never_panics _ _ _)
  · exact absurd hg (genericX64_no_panic _ _ _ _ _)
  · rcases planAt_cases archX64 u.mods addr.lookup (!addr.isReturn) with e | ⟨i, rel, m, hf, hm, e⟩
    · rw [e] at hp; cases hp
    · exact ⟨i, rel, m, p, hf, hm, e ▸ hp, hg⟩

theorem C09_unwind_frame_a64_never_panics (N : Nat) (u : Unw) (c : Cache archA64.Rule)
    (addr : FrameAddr) (regs : archA64.Regs) (mem : Mem) (hu : u.WF) (hc : CacheWFA64 c) :
    CacheWFA64 (unwindFrame archA64 N u c addr regs mem).1 ∧
    ∀ s, (unwindFrame archA64 N u c addr regs mem).2 ≠ .panic s := by
  obtain ⟨h1, h2⟩ := unwindFrame_out (N := N) (plansAll_a64 hu) hc addr regs mem
  refine ⟨h1, fun s h => ?_⟩
  rcases h2.panicked h with ⟨r, hr, he⟩ | hp | ⟨row, hg⟩ | ⟨p, _, hg⟩
  · exact execA64_no_panic _ _ _ _ hr s he
  · exact planAt_ne_panic C14_plan_a64_never_panics _ _ _ hp
  · exact genericA64_no_panic _ _ _ _ _ hg
  · cases hg

/-- The empty cache satisfies the cache hypotheses, so by the preservation halves they hold
along every history. -/
theorem C09_empty_cache_ok : CacheSafeX64 Cache.empty ∧ CacheWFA64 Cache.empty := by
  constructor <;> intro s e h <;> simp [Cache.empty] at h

/-! ## Along every history

The hypotheses of the two whole-call theorems hold in every world a history of operations can
reach (any number of unwinders sharing the cache, modules added with in-range opcode fields,
removed, unwinders cloned, any calls in between): an invariant by induction over operations. -/

/-- Modules handed to `add_module` have their Mach-O opcode fields in range. -/
def HOp.ModsWF {A : Arch} : HOp A → Prop
  | .add _ m => m.data.WF
  | _ => True

def WorldWF {A : Arch} (w : HWorld A) : Prop := ∀ u ∈ w.unws, u.WF

theorem hstep_preserves {A : Arch} {N : Nat} (P : Cache A.Rule → Prop)
    (hP : ∀ u c addr regs mem, Unw.WF u → P c → P (unwindFrame A N u c addr regs mem).1)
    (w : HWorld A) (op : HOp A) (hw : WorldWF w) (hc : P w.cache) (hop : op.ModsWF) :
    WorldWF (hstep A N w op).1 ∧ P (hstep A N w op).1.cache := by
  cases op with
  | new =>
    simp only [hstep, drawGen]
    refine ⟨?_, hc⟩
    intro u hu
    simp only [List.mem_append, List.mem_singleton] at hu
    rcases hu with hu | hu
    · exact hw u hu
    · subst hu; intro m hm; cases hm
  | clone i =>
    simp only [hstep]
    cases hi : w.unws[i]? with
    | none => exact ⟨hw, hc⟩
    | some u =>
      refine ⟨?_, hc⟩
      intro v hv
      simp only [List.mem_append, List.mem_singleton] at hv
      rcases hv with hv | hv
      · exact hw v hv
      · subst hv; exact hw _ (List.mem_of_getElem? hi)
  | add i m =>
    simp only [hstep, drawGen]
    cases hi : w.unws[i]? with
    | none => exact ⟨hw, hc⟩
    | some u =>
      refine ⟨?_, hc⟩
      intro v hv
      rcases List.mem_or_eq_of_mem_set hv with hv | hv
      · exact hw v hv
      · subst hv
        intro x hx
        rcases (mem_addModule u.mods m x).mp hx with rfl | hx'
        · exact hop
        · exact hw u (List.mem_of_getElem? hi) x hx'
  | remove i start =>
    simp only [hstep, drawGen]
    cases hi : w.unws[i]? with
    | none => exact ⟨hw, hc⟩
    | some u =>
      simp only []
      cases hr : removeModule u.mods start with
      | none => exact ⟨hw, hc⟩
      | some L =>
        refine ⟨?_, hc⟩
        intro v hv
        rcases List.mem_or_eq_of_mem_set hv with hv | hv
        · exact hw v hv
        · subst hv
          intro x hx
          exact hw u (List.mem_of_getElem? hi) x (removeModule_subset hr x hx)
  | unwind i addr regs mem =>
    simp only [hstep]
    cases hi : w.unws[i]? with
    | none => exact ⟨hw, hc⟩
    | some u => exact ⟨hw, hP u w.cache addr regs mem (hw u (List.mem_of_getElem? hi)) hc⟩

theorem hrun_preserves {A : Arch} {N : Nat} (P : Cache A.Rule → Prop)
    (hP : ∀ u c addr regs mem, Unw.WF u → P c → P (unwindFrame A N u c addr regs mem).1) :
    ∀ (ops : List (HOp A)) (w : HWorld A), WorldWF w → P w.cache → (∀ op ∈ ops, op.ModsWF) →
      WorldWF (hrun A N w ops) ∧ P (hrun A N w ops).cache
  | [], w, hw, hc, _ => ⟨hw, hc⟩
  | op :: ops, w, hw, hc, hops => by
    simp only [hrun]
    have h := hstep_preserves (N := N) P hP w op hw hc (hops op (by simp))
    exact hrun_preserves P hP ops _ h.1 h.2 (fun o ho => hops o (by simp [ho]))

/-- Every world a history reaches from the initial one has well-formed unwinders and a cache
holding only rules with `G`, if every rule a well-formed unwinder can execute has `G`. -/
theorem hrun_init_all {A : Arch} {N : Nat} {G : A.Rule → Prop}
    (hG : ∀ u : Unw, u.WF → PlansAll A G u.mods) (c0 : Nat) (ops : List (HOp A))
    (hops : ∀ op ∈ ops, op.ModsWF) :
    WorldWF (hrun A N (HWorld.init A c0) ops) ∧
    (hrun A N (HWorld.init A c0) ops).cache.All (G ·.rule) :=
  hrun_preserves (N := N) (Cache.All (G ·.rule))
    (fun u c addr regs mem hu hc => (unwindFrame_out (hG u hu) hc addr regs mem).1)
    ops (HWorld.init A c0) (by intro u hu; simp [HWorld.init] at hu)
    (by intro s e he; simp [HWorld.init, Cache.empty] at he) hops

/-- **C09 along histories (x86-64).** After any history from the initial world, a further call
by any of the unwinders has a panic outcome only inside the PE operation interpreter. -/
theorem C09_x64_no_panic_along_histories (N c0 : Nat) (ops : List (HOp archX64))
    (hops : ∀ op ∈ ops, op.ModsWF) (i : Nat) (u : Unw)
    (hu : (hrun archX64 N (HWorld.init archX64 c0) ops).unws[i]? = some u)
    (addr : FrameAddr) (regs : archX64.Regs) (mem : Mem) (s : Site)
    (h : (unwindFrame archX64 N u (hrun archX64 N (HWorld.init archX64 c0) ops).cache addr regs mem).2
      = .panic s) :
    ∃ j rel m p, findModule u.mods addr.lookup = some (j, rel) ∧ u.mods[j]? = some m ∧
      plan archX64 m rel (!addr.isReturn) = .pe p ∧
      peRun p (!addr.isReturn) regs mem = .panic s := by
  have hinv := hrun_init_all (N := N) (fun _ => plansAll_x64) c0 ops hops
  exact (C09_unwind_frame_x64_panics_only_in_pe_interpreter N u _ addr regs mem
    (hinv.1 u (List.mem_of_getElem? hu)) hinv.2).2 s h

/-- **C09 along histories (aarch64).** No call ever has a panic outcome. -/
theorem C09_a64_no_panic_along_histories (N c0 : Nat) (ops : List (HOp archA64))
    (hops : ∀ op ∈ ops, op.ModsWF) (i : Nat) (u : Unw)
    (hu : (hrun archA64 N (HWorld.init archA64 c0) ops).unws[i]? = some u)
    (addr : FrameAddr) (regs : archA64.Regs) (mem : Mem) (s : Site) :
    (unwindFrame archA64 N u (hrun archA64 N (HWorld.init archA64 c0) ops).cache addr regs mem).2
      ≠ .panic s := by
  have hinv := hrun_init_all (N := N) (fun _ => plansAll_a64) c0 ops hops
  exact (C09_unwind_frame_a64_never_panics N u _ addr regs mem
    (hinv.1 u (List.mem_of_getElem? hu)) hinv.2).2 s

-- Non-vacuity: concrete rules / states meeting the hypotheses.
example : (RuleX64.offsetSpAndPopRegisters 65535 255 65535).WF := by simp [RuleX64.WF, U16]
example : (RuleA64.useFramepointerWithOffsets 65535 (-32768) 32767).WF := by
  simp [RuleA64.WF, InI16, U16]

end FH
