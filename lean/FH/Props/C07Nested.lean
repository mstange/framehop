import FH.ModuleLemmas
/-!
# C07 (beyond its stated domain) — what `find_module_for_address` means for *any* module list

C07 speaks about non-overlapping ranges. The implementation accepts any ranges; `add_module`
keeps the list sorted by range start, and the binary search then settles on **the module with the
greatest start at or below the address - if that one contains the address - and on no module
otherwise**, even when an enclosing module would contain it. These theorems state exactly that,
for any list sorted by start (nested and overlapping ranges, empty ranges). The histories of the
`hist` engine contain nested mappings since round 12; the C06 theorem makes no assumption on the
ranges, and this is the reference semantics the model and the implementation are compared on
(a cache-side hint that accepts "any module containing the address" differs from it - C06-12).
-/
namespace FH

/-- The module with the greatest start at or below the address decides: it is returned if the
address lies below its end, and otherwise nothing is - whatever other modules enclose the
address. -/
theorem C07_greatest_start_decides (mods : List Module) (hs : SortedByStart mods) (a j : Nat)
    (m : Module) (hm : mods[j]? = some m) (hle : m.start ≤ a)
    (hg : ∀ k x, mods[k]? = some x → x.start ≤ a → k ≤ j) :
    findCand mods a = if m.stop ≤ a then none else some (j, m) :=
  findCand_greatest_start mods hs a j m hm hle hg

/-- An address below every range start belongs to no module. -/
theorem C07_below_every_start (mods : List Module) (a : Nat) (h : ∀ x ∈ mods, a < x.start) :
    findCand mods a = none := by
  cases hf : findCand mods a with
  | none => rfl
  | some p =>
    obtain ⟨j, m⟩ := p
    have ⟨hm, hc⟩ := findCand_sound mods a j m hf
    have := h m (List.mem_of_getElem? hm)
    have := hc.1
    omega

-- Non-vacuity: an inner mapping nested in an outer one. Behind the inner mapping's end the
-- address lies in the outer range, but it is given to no module; inside, to the inner one.
example : findCand [⟨0x1000, 0x8000, 0x1000, 0, .none⟩, ⟨0x3000, 0x4000, 0x3000, 0, .none⟩] 0x5000
    = none := by decide
example : (findCand [⟨0x1000, 0x8000, 0x1000, 0, .none⟩, ⟨0x3000, 0x4000, 0x3000, 0, .none⟩] 0x3100).map
    (·.1) = some 1 := by decide
example : SortedByStart [⟨0x1000, 0x8000, 0x1000, 0, .none⟩, ⟨0x3000, 0x4000, 0x3000, 0, .none⟩] := by
  simp [SortedByStart]

end FH
