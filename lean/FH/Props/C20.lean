import FH.Hist
/-!
# C20 — The rule cache actually caches, and its statistics are exact
-/
namespace FH

def Stats.total (s : Stats) : Nat := s.hit + s.missEmpty + s.missWrongModules + s.missWrongAddress

/-- Every lookup increments exactly one counter by one, and which one is determined by the
slot content exactly as the counters are documented: empty slot; entry recorded under another
module-set identity; same identity, other address; hit. -/
theorem C20_counter_meaning {Rule : Type} (N : Nat) (c : Cache Rule) (a g : Nat) :
    let s := c.stats
    let s' := (c.lookup N a g).1.stats
    match c.slots (a % N) with
    | none => s' = { s with missEmpty := s.missEmpty + 1 }
    | some e =>
      if e.gen ≠ g then s' = { s with missWrongModules := s.missWrongModules + 1 }
      else if e.addr ≠ a then s' = { s with missWrongAddress := s.missWrongAddress + 1 }
      else s' = { s with hit := s.hit + 1 } := by
  cases h : c.slots (a % N) with
  | none => simp [Cache.lookup, h]
  | some e =>
    by_cases hg : e.gen = g
    · by_cases ha : e.addr = a
      · simp [Cache.lookup, h, hg, ha]
      · simp [Cache.lookup, h, hg, ha]
    · simp [Cache.lookup, h, hg]

theorem C20_exactly_one_counter {Rule : Type} (N : Nat) (c : Cache Rule) (a g : Nat) :
    (c.lookup N a g).1.stats.total = c.stats.total + 1 := by
  simp only [Cache.lookup, Stats.total]
  split
  · simp only []; omega
  · split
    · split <;> (simp only []; omega)
    · simp only []; omega

/-- One `unwind_frame` call performs exactly one lookup: its statistics are those of the lookup
(inserting a rule does not touch them). -/
theorem C20_call_counts_once (A : Arch) (N : Nat) (u : Unw) (c : Cache A.Rule)
    (addr : FrameAddr) (regs : A.Regs) (mem : Mem) :
    (unwindFrame A N u c addr regs mem).1.stats = (c.lookup N addr.lookup u.gen).1.stats := by
  cases h : (c.lookup N addr.lookup u.gen).2 with
  | hit r => rw [unwindFrame_hit h]
  | miss => rw [unwindFrame_miss h]; cases (missPath A u addr regs mem).1 <;> rfl

/-- A call whose rule is cacheable leaves that rule in the slot of its address. -/
theorem C20_cacheable_call_fills_slot (A : Arch) (N : Nat) (u : Unw) (c : Cache A.Rule)
    (addr : FrameAddr) (regs : A.Regs) (mem : Mem) (r : A.Rule)
    (hs : staticRule A u.mods addr.lookup (!addr.isReturn) = some r) :
    ∃ e, (unwindFrame A N u c addr regs mem).1.slots (addr.lookup % N) = some e ∧
      e.addr = addr.lookup ∧ e.gen = u.gen ∧
      ((c.lookup N addr.lookup u.gen).2 = .miss → e.rule = r) := by
  cases hl : (c.lookup N addr.lookup u.gen).2 with
  | hit rule =>
    rw [unwindFrame_hit hl, lookup_slots]
    exact ⟨_, lookup_hit_iff.mp hl, rfl, rfl, fun h => by cases h⟩
  | miss =>
    rw [unwindFrame_miss hl, (missPath_static A u addr regs mem).1, hs]
    exact ⟨⟨addr.lookup, u.gen, r⟩, by rw [insert_slots, if_pos rfl], rfl, rfl, fun _ => rfl⟩

/-- A call only ever writes the slot of its own lookup address. -/
theorem C20_call_touches_one_slot (A : Arch) (N : Nat) (u : Unw) (c : Cache A.Rule)
    (addr : FrameAddr) (regs : A.Regs) (mem : Mem) (s : Nat) (hs : s ≠ addr.lookup % N) :
    (unwindFrame A N u c addr regs mem).1.slots s = c.slots s := by
  cases h : (c.lookup N addr.lookup u.gen).2 with
  | hit r => rw [unwindFrame_hit h, lookup_slots]
  | miss =>
    rw [unwindFrame_miss h]
    cases (missPath A u addr regs mem).1 with
    | none => rw [lookup_slots]
    | some r => rw [insert_slots, if_neg hs, lookup_slots]

/-- If the slot of `addr` holds an entry for this address and this unwinder's generation,
the call is a hit: `hit_count` grows by one, the result is the execution of the cached rule,
and no section data is consulted. -/
theorem C20_repeat_is_hit (A : Arch) (N : Nat) (u : Unw) (c : Cache A.Rule) (addr : FrameAddr)
    (regs : A.Regs) (mem : Mem) (e : Entry A.Rule) (he : c.slots (addr.lookup % N) = some e)
    (ha : e.addr = addr.lookup) (hg : e.gen = u.gen) :
    (unwindFrame A N u c addr regs mem).1.stats = { c.stats with hit := c.stats.hit + 1 } ∧
    (unwindFrame A N u c addr regs mem).2 = A.exec e.rule (!addr.isReturn) regs mem ∧
    touchesSections A N u c addr = false := by
  have hl : (c.lookup N addr.lookup u.gen) =
      ({ c with stats := { c.stats with hit := c.stats.hit + 1 } }, .hit e.rule) := by
    simp [Cache.lookup, he, ha, hg]
  have hh : (c.lookup N addr.lookup u.gen).2 = .hit e.rule := by rw [hl]
  refine ⟨?_, ?_, ?_⟩
  · rw [C20_call_counts_once, hl]
  · rw [unwindFrame_hit hh]
  · unfold touchesSections; simp only [hl]

/-- History form of the first half of the property: after a cacheable call on `(addr, u)`,
any sequence of calls (by any unwinders) that do not map to the same slot leaves the entry in
place, so repeating the call is a hit. -/
theorem C20_entry_survives_other_slots (A : Arch) (N : Nat) (c : Cache A.Rule) (s : Nat)
    (calls : List (Unw × FrameAddr × A.Regs × Mem))
    (hs : ∀ x ∈ calls, x.2.1.lookup % N ≠ s) :
    (calls.foldl (fun c x => (unwindFrame A N x.1 c x.2.1 x.2.2.1 x.2.2.2).1) c).slots s =
      c.slots s := by
  induction calls generalizing c with
  | nil => rfl
  | cons x rest ih =>
    simp only [List.foldl]
    rw [ih _ (fun y hy => hs y (by simp [hy]))]
    exact C20_call_touches_one_slot A N x.1 c x.2.1 x.2.2.1 x.2.2.2 s
      (fun h => hs x (by simp) h.symm)

end FH
