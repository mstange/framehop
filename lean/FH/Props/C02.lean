import FH.AnaLemmas
import FH.World
import FH.DwarfSpec
import FH.Props.C04
/-!
# C02 — Compact unwind + instruction analysis is exact in prologues and epilogues

The model of `macho.rs`, `x86_64/macho.rs`, `aarch64/macho.rs` and the four instruction
analysers is `FH/Cui.lean`, `FH/AnaX64.lean`, `FH/AnaA64.lean`; it is tied to the code by the
`ana` engine (analysers through the hooks, byte for byte) and the `macho` engine (whole
modules with real `__unwind_info` / `__eh_frame` / text bytes).

Here, for **x86-64**, the analysers are proved sound against a small machine model of the
standard prologue/epilogue grammar, for *every* order and choice of pushed/popped registers:

* epilogue: stopped before any suffix `pop r1; …; pop rn; ret` (any registers, legacy or
  REX-prefixed encodings, `rbp` anywhere or absent), the analysed rule performs exactly what
  the CPU will do: the caller's `rsp`, `rbp` and return address (`C02_x64_epilogue_exact`);
* prologue: stopped after any prefix `push r1; …; push rn` of the function (next instruction
  another prologue instruction), the rule finds the return address above the pushed words
  (`C02_x64_prologue_pushes_exact`), and after `push rbp; mov rbp, rsp; push…` it is the frame
  pointer rule (`C02_x64_prologue_after_frame_setup`);
* bodies: frame-based and frameless opcodes give the rules whose execution is the documented
  layout (`C02_x64_frameless_body_exact`, `C02_x64_frame_based_is_fp_convention`);
* dispatch: `__stubs` / `__stub_helper` take precedence and are first-frame only, function
  starts are leaves, the stub helper table follows the documented `dyld_stub_binder` layout.

For **aarch64** this file has the body rules and the stub helper table; the prologue/epilogue
word scans are proved against their machine model in `FH/Props/C02A64.lean`.
-/
namespace FH

/-! ## x86-64 machine fragment -/

/-- Operand of `push`/`pop`: `ext` = r8–r15 (REX.B prefix `0x41`), `lo` = low three bits. -/
structure PReg where
  ext : Bool
  lo : Nat
  deriving DecidableEq, Repr

def PReg.isRbp (r : PReg) : Bool := !r.ext && r.lo == 5

def encPush (r : PReg) : List Nat := if r.ext then [0x41, 0x50 + r.lo] else [0x50 + r.lo]
def encPop (r : PReg) : List Nat := if r.ext then [0x41, 0x58 + r.lo] else [0x58 + r.lo]

/-- What the CPU does for `pop r1; …; pop rn`, as far as `rsp` and `rbp` are concerned. -/
def runPops (mem : Mem) : List PReg → Nat → Nat → Option (Nat × Nat)
  | [], sp, bp => some (sp, bp)
  | r :: rest, sp, bp =>
    match mem sp with
    | none => none
    | some v => runPops mem rest (sp + 8) (if r.isRbp then v else bp)

/-- Index (in words from the first pop, starting at `i`) of the slot the last `pop rbp`
reads, if any. -/
def bpSlot : List PReg → Nat → Option Nat → Option Nat
  | [], _, acc => acc
  | r :: rest, i, acc => bpSlot rest (i + 1) (if r.isRbp then some i else acc)

/-! ## x86-64 epilogues: the forward scan, one instruction at a time -/

theorem flatMap_encPop_length_ge (pops : List PReg) : pops.length ≤ (pops.flatMap encPop).length := by
  induction pops with
  | nil => simp
  | cons r rest ih =>
    simp only [List.flatMap_cons, List.length_append, List.length_cons]
    have : 1 ≤ (encPop r).length := by unfold encPop; split <;> simp
    omega

theorem popByte : ∀ lo < 8, (0x58 + lo) &&& 0xf8 = 0x58 ∧ (0x58 + lo) &&& 0xfe ≠ 0x40 := by decide

/-- One iteration at a `pop r`, either encoding. -/
theorem epilogueScan_pop (prev : Bool) (r : PReg) (l : List Nat) (n : Nat) (acc : Option Nat)
    (fuel : Nat) (hlo : r.lo < 8) (hn : n < 32768) :
    epilogueScanX64 prev (encPop r ++ l) n acc (fuel + 1) =
      epilogueScanX64 prev l (n + 1) (if r.isRbp then some n else acc) fuel := by
  obtain ⟨ext, lo⟩ := r
  have hU : n + 1 < U16 := by unfold U16; omega
  have hb := popByte lo hlo
  cases ext
  · have h1 : 88 + lo ≠ 0xc3 ∧ 88 + lo ≠ 0xeb ∧ 88 + lo ≠ 0xe9 ∧ 88 + lo ≠ 0xff ∧ 88 + lo ≤ 0x5f := by
      simp only at hlo; omega
    by_cases h5 : lo = 5
    · subst h5; simp [encPop, epilogueScanX64, PReg.isRbp, hU, hn]
    · have : 88 + lo ≠ 0x5d := by omega
      simp [encPop, epilogueScanX64, PReg.isRbp, hU, h1, this, h5]
  · simp [encPop, epilogueScanX64, PReg.isRbp, hU, byteAt, hb.1]

/-- The scan walks over any run of pops, counting them and remembering the last `rbp` slot. -/
theorem epilogueScan_pops (prev : Bool) (l : List Nat) : ∀ (pops : List PReg) (n : Nat)
    (acc : Option Nat) (fuel : Nat), (∀ r ∈ pops, r.lo < 8) → n + pops.length ≤ 32768 →
    epilogueScanX64 prev (pops.flatMap encPop ++ l) n acc (fuel + pops.length) =
      epilogueScanX64 prev l (n + pops.length) (bpSlot pops n acc) fuel
  | [], n, acc, fuel, _, _ => rfl
  | r :: more, n, acc, fuel, hwf, hn => by
    simp only [List.length_cons, List.forall_mem_cons] at hn hwf
    rw [List.flatMap_cons, List.append_assoc, List.length_cons, ← Nat.add_assoc,
      epilogueScan_pop prev r _ n acc _ hwf.1 (by omega),
      epilogueScan_pops prev l more (n + 1) _ fuel hwf.2 (by omega), bpSlot, Nat.add_right_comm n 1,
      Nat.add_assoc n]

theorem not_prologue_of_pop (r : PReg) (more : List Nat) (hlo : r.lo < 8) :
    nextExpectedInPrologueX64 (encPop r ++ more) = false := by
  obtain ⟨ext, lo⟩ := r
  have hb := popByte lo hlo
  cases ext <;> simp only [encPop, Bool.false_eq_true, if_false, if_true, List.cons_append,
    List.nil_append] at hlo ⊢
  · exact not_prologue_of_head _ _ (by simp [hb.1]) (fun h => absurd h hb.2) (by omega)
  · exact not_prologue_of_head _ _ (by decide) (fun _ => by simp [byteAt, hb.1]) (by decide)

theorem not_prologue_of_end (b : Nat) (rest : List Nat)
    (hb : b = 0xc3 ∨ b = 0xeb ∨ b = 0xe9 ∨ b = 0xff) :
    nextExpectedInPrologueX64 (b :: rest) = false := by
  rcases hb with rfl | rfl | rfl | rfl <;>
    exact not_prologue_of_head _ _ (by decide) (fun h => absurd h (by decide)) (by decide)

/-- **The analysis of any `pop…; ret` / `pop…; jmp`**, stopped anywhere inside it: a jump counts
as a tail call when a pop precedes it in the scan or the bytes before pc show one. -/
theorem anaX64_epilogue (text : List Nat) (pc : Nat) (pops : List PReg) (b : Nat) (rest : List Nat)
    (hpc : pc ≤ text.length) (hcode : text.drop pc = pops.flatMap encPop ++ b :: rest)
    (hwf : ∀ r ∈ pops, r.lo < 8) (hlen : pops.length ≤ 32768)
    (hb : b = 0xc3 ∨ (b = 0xeb ∨ b = 0xe9 ∨ b = 0xff) ∧
      (pops ≠ [] ∨ prevIsPopX64 (text.take pc) = true)) :
    anaX64 text pc = some (epiRule pops.length (bpSlot pops 0 none)) := by
  have hnp : nextExpectedInPrologueX64 (text.drop pc) = false := by
    rw [hcode]
    cases pops with
    | nil => exact not_prologue_of_end b rest (by omega)
    | cons r more =>
      rw [List.flatMap_cons, List.append_assoc]
      exact not_prologue_of_pop r _ (hwf r (by simp))
  obtain ⟨f, hf⟩ : ∃ f, (text.drop pc).length + 1 = f + 1 + pops.length :=
    ⟨(text.drop pc).length - pops.length, by
      have := flatMap_encPop_length_ge pops
      rw [hcode, List.length_append, List.length_cons]; omega⟩
  rw [anaX64_of_not_prologue hpc hnp, hf, hcode, epilogueScan_pops _ _ _ _ _ _ hwf (by omega),
    Nat.zero_add, epilogueScan_end]
  rcases hb with h | ⟨hj, h | h⟩
  · exact .inl h
  · exact .inr ⟨hj, .inl (by simpa using h)⟩
  · exact .inr ⟨hj, .inr h⟩

/-! ## what the CPU does -/

/-- Running the pops: the final `rsp`, and `rbp` is the word at the slot the static summary
names (or unchanged). -/
theorem runPops_summary (mem : Mem) (base bp0 : Nat) : ∀ (pops : List PReg) (i bp : Nat)
    (acc : Option Nat) (sp' bp' : Nat),
    runPops mem pops (base + 8 * i) bp = some (sp', bp') →
    (match acc with | some k => mem (base + 8 * k) | none => some bp0) = some bp →
    sp' = base + 8 * (i + pops.length) ∧
    (match bpSlot pops i acc with | some k => mem (base + 8 * k) | none => some bp0) = some bp'
  | [], i, bp, acc, sp', bp', h, hacc => by
    simp only [runPops] at h
    injection h with h; injection h with h1 h2; subst h1 h2
    simp [bpSlot, hacc]
  | r :: more, i, bp, acc, sp', bp', h, hacc => by
    simp only [runPops] at h
    cases hm : mem (base + 8 * i) with
    | none => simp [hm] at h
    | some v =>
      simp only [hm] at h
      have e : base + 8 * i + 8 = base + 8 * (i + 1) := by omega
      rw [e] at h
      have := runPops_summary mem base bp0 more (i + 1) _ (if r.isRbp then some i else acc) sp' bp' h
        (by cases hr : r.isRbp <;> simp [hm, hacc])
      simp only [bpSlot, List.length_cons]
      refine ⟨by omega, this.2⟩

theorem bpSlot_lt : ∀ (pops : List PReg) (i : Nat) (acc : Option Nat) (k : Nat),
    bpSlot pops i acc = some k → acc = some k ∨ (i ≤ k ∧ k < i + pops.length)
  | [], _, _, _, h => .inl h
  | r :: more, i, acc, k, h => by
    rcases bpSlot_lt more _ _ k h with h1 | h1
    · cases hr : r.isRbp <;> simp [hr] at h1
      · exact .inl h1
      · exact .inr (by simp; omega)
    · exact .inr (by simp; omega)

/-- Executing the reported rule does what running the pops and returning does. -/
theorem epiRule_exact (pops : List PReg) (regs : RegsX64) (mem : Mem) (sp' bp' ra : Nat)
    (hlen : pops.length + 2 < 32768) (hrun : runPops mem pops regs.sp regs.bp = some (sp', bp'))
    (hra : mem sp' = some ra) (hra0 : ra ≠ 0) (hfit : sp' + 8 < U64) :
    ∃ rule, epiRule pops.length (bpSlot pops 0 none) = some rule ∧
      execX64 rule true regs mem = .ret (.frame ra) (afterX64 regs ra (sp' + 8) bp') := by
  obtain ⟨hsp, hbp⟩ := runPops_summary mem regs.sp regs.bp pops 0 regs.bp none sp' bp'
    (by simpa using hrun) rfl
  have hU : pops.length + 1 < U16 := by unfold U16; omega
  have hra' : mem (sp' + 8 - 8) = some ra := by simpa using hra
  cases hb : bpSlot pops 0 none with
  | none =>
    obtain rfl : regs.bp = bp' := by simpa [hb] using hbp
    by_cases hn : pops.length = 0
    · refine ⟨.justReturn, by simp [epiRule, hn], ?_⟩
      obtain rfl : sp' = regs.sp := by omega
      exact execX64_justReturn_frame hfit hra hra0
    · exact ⟨.offsetSp (pops.length + 1), by simp [epiRule, hn, hU],
        execX64_offsetSp_frame (by omega) (by omega) hfit hra' hra0⟩
  | some k =>
    have hk : k < pops.length := by
      rcases bpSlot_lt pops 0 none k hb with h | h
      · cases h
      · omega
    exact ⟨.offsetSpAndRestoreBp (pops.length + 1) k, by simp [epiRule, show pops.length ≠ 0 by omega, hU],
      execX64_offsetSpAndRestoreBp_frame (loc := regs.sp + 8 * k) (by omega) (by omega) hfit (by omega)
        (by omega) hU (by simpa [hb] using hbp) hra' hra0⟩

/-- **x86-64 epilogues are exact.** A thread stopped anywhere inside `pop r1; …; pop rn; ret`
(any registers in any order; `n = 0` is "at the `ret`"): instruction analysis yields a rule,
and executing it restores exactly the `rsp` and `rbp` the CPU will have after the `ret`, and
reports the return address the `ret` will pop. -/
theorem C02_x64_epilogue_exact (text : List Nat) (pc : Nat) (pops : List PReg) (rest : List Nat)
    (regs : RegsX64) (mem : Mem) (sp' bp' ra : Nat)
    (hpc : pc ≤ text.length) (hcode : text.drop pc = pops.flatMap encPop ++ 0xc3 :: rest)
    (hwf : ∀ r ∈ pops, r.lo < 8) (hlen : pops.length + 2 < 32768)
    (hrun : runPops mem pops regs.sp regs.bp = some (sp', bp'))
    (hra : mem sp' = some ra) (hra0 : ra ≠ 0) (hfit : sp' + 8 < U64) :
    ∃ rule, anaX64 text pc = some (some rule) ∧
      execX64 rule true regs mem = .ret (.frame ra) (afterX64 regs ra (sp' + 8) bp') := by
  obtain ⟨rule, h1, h2⟩ := epiRule_exact pops regs mem sp' bp' ra hlen hrun hra hra0 hfit
  exact ⟨rule, by rw [anaX64_epilogue text pc pops _ rest hpc hcode hwf (by omega) (.inl rfl), h1], h2⟩

/-- **x86-64 tail calls are exact.** A thread stopped inside `pop r1; …; pop rn; jmp target`
(`n ≥ 1`; `jmp rel8`, `jmp rel32` or `jmp r/m`): the analysed rule restores exactly the `rsp`
and `rbp` the tail-called function will be entered with and reports the return address at the
top of its stack - the caller of the function that is being left. -/
theorem C02_x64_tail_call_exact (text : List Nat) (pc : Nat) (pops : List PReg) (j : Nat)
    (rest : List Nat) (regs : RegsX64) (mem : Mem) (sp' bp' ra : Nat)
    (hj : j = 0xeb ∨ j = 0xe9 ∨ j = 0xff) (hne : pops ≠ [])
    (hpc : pc ≤ text.length) (hcode : text.drop pc = pops.flatMap encPop ++ j :: rest)
    (hwf : ∀ r ∈ pops, r.lo < 8) (hlen : pops.length + 2 < 32768)
    (hrun : runPops mem pops regs.sp regs.bp = some (sp', bp'))
    (hra : mem sp' = some ra) (hra0 : ra ≠ 0) (hfit : sp' + 8 < U64) :
    ∃ rule, anaX64 text pc = some (some rule) ∧
      execX64 rule true regs mem = .ret (.frame ra) (afterX64 regs ra (sp' + 8) bp') := by
  obtain ⟨rule, h1, h2⟩ := epiRule_exact pops regs mem sp' bp' ra hlen hrun hra hra0 hfit
  exact ⟨rule, by rw [anaX64_epilogue text pc pops _ rest hpc hcode hwf (by omega)
    (.inr ⟨hj, .inl hne⟩), h1], h2⟩

/-- The instruction before a tail-call `jmp` that tells the analysis that the frame is gone:
a `pop`, `add rsp, imm8` or `add rsp, imm32`. -/
inductive LastBeforeJmp where
  | pop (r : PReg)
  | addImm8 (i : Nat)
  | addImm32 (a b c d : Nat)

def LastBeforeJmp.bytes : LastBeforeJmp → List Nat
  | .pop r => encPop r
  | .addImm8 i => [0x48, 0x83, 0xc4, i]
  | .addImm32 a b c d => [0x48, 0x81, 0xc4, a, b, c, d]

theorem prevIsPopX64_last (pre : List Nat) (l : LastBeforeJmp)
    (hl : match l with | .pop r => r.lo < 8 | _ => True) : prevIsPopX64 (pre ++ l.bytes) = true := by
  unfold prevIsPopX64
  cases l with
  | pop r =>
    obtain ⟨ext, lo⟩ := r
    have hb := (popByte lo hl).1
    cases ext <;> simp [LastBeforeJmp.bytes, encPop, hb]
  | addImm8 i =>
    simp [LastBeforeJmp.bytes]
  | addImm32 a b c d =>
    simp [LastBeforeJmp.bytes]

/-- **x86-64, stopped exactly on a tail-call `jmp`** that follows a `pop` or `add rsp, imm`:
the frame is already gone, the rule is `JustReturn`: the return address is the word at `rsp`. -/
theorem C02_x64_on_tail_jmp (pre rest : List Nat) (l : LastBeforeJmp) (j : Nat)
    (regs : RegsX64) (mem : Mem) (ra : Nat)
    (hj : j = 0xeb ∨ j = 0xe9 ∨ j = 0xff)
    (hl : match l with | .pop r => r.lo < 8 | _ => True)
    (hra : mem regs.sp = some ra) (hra0 : ra ≠ 0) (hfit : regs.sp + 8 < U64) :
    anaX64 (pre ++ l.bytes ++ j :: rest) (pre ++ l.bytes).length = some (some .justReturn) ∧
    execX64 .justReturn true regs mem = .ret (.frame ra) (afterX64 regs ra (regs.sp + 8) regs.bp) :=
  ⟨anaX64_epilogue _ _ [] j rest (by simp) List.drop_left (by simp) (by simp)
    (.inr ⟨hj, .inr (by rw [List.take_left]; exact prevIsPopX64_last pre l hl)⟩),
   execX64_justReturn_frame hfit hra hra0⟩

/-! ## x86-64 prologues -/

/-- The bytes of `push r1; …; push rn` as the backward scan meets them: `pushes` lists the
pushes nearest to pc first (last executed first). -/
def revPushBytes (pushes : List PReg) : List Nat := pushes.flatMap fun r => (encPush r).reverse

/-- The byte the backward scan sees first is not a REX prefix. -/
def NoRexHead (l : List Nat) : Prop := ∀ p rest, l = p :: rest → p &&& 0xfe ≠ 0x40

theorem pushByte : ∀ lo < 8, (0x50 + lo) &&& 0xf8 = 0x50 ∧ (0x50 + lo) &&& 0xfe ≠ 0x40 := by decide

/-- One iteration at a `push r`, either encoding; a one-byte push must not be preceded by a
byte that looks like its REX prefix. -/
theorem prologueScan_push (r : PReg) (tail : List Nat) (n fuel : Nat) (hlo : r.lo < 8)
    (hU : n + 1 < U16) (htail : r.ext = false → NoRexHead tail) :
    prologueScanX64 (fuel + 1) ((encPush r).reverse ++ tail) n = prologueScanX64 fuel tail (n + 1) := by
  obtain ⟨ext, lo⟩ := r
  have hb := pushByte lo hlo
  have he5 : 80 + lo ≠ 0xe5 := by simp only at hlo; omega
  cases ext
  · cases tail with
    | nil => simp [encPush, prologueScanX64, hU, hb.1, he5]
    | cons p rest => simp [encPush, prologueScanX64, hU, hb.1, he5, htail rfl p rest rfl]
  · simp [encPush, prologueScanX64, hU, hb.1, he5]

theorem noRexHead_revPush (pushes : List PReg) (pre : List Nat) (hwf : ∀ r ∈ pushes, r.lo < 8)
    (hpre : NoRexHead pre) : NoRexHead (revPushBytes pushes ++ pre) := by
  cases pushes with
  | nil => exact hpre
  | cons r more =>
    intro p rest hp
    obtain ⟨ext, lo⟩ := r
    have hb := (pushByte lo (hwf ⟨ext, lo⟩ (by simp))).2
    cases ext <;> simp [revPushBytes, encPush] at hp <;> exact hp.1 ▸ hb

theorem prologueScan_pushes (pre : List Nat) (hpre : NoRexHead pre) : ∀ (pushes : List PReg)
    (n fuel : Nat), (∀ r ∈ pushes, r.lo < 8) → n + pushes.length < U16 →
    prologueScanX64 (fuel + pushes.length) (revPushBytes pushes ++ pre) n =
      prologueScanX64 fuel pre (n + pushes.length)
  | [], _, _, _, _ => rfl
  | r :: more, n, fuel, hwf, hn => by
    simp only [List.length_cons, List.forall_mem_cons] at hn hwf
    have hrb : revPushBytes (r :: more) ++ pre = (encPush r).reverse ++ (revPushBytes more ++ pre) := by
      simp [revPushBytes]
    rw [hrb, List.length_cons, ← Nat.add_assoc,
      prologueScan_push r _ n _ hwf.1 (by omega) (fun _ => noRexHead_revPush more pre hwf.2 hpre),
      prologueScan_pushes pre hpre more (n + 1) fuel hwf.2 (by omega), Nat.add_right_comm n 1,
      Nat.add_assoc n]

theorem length_le_revPushBytes (pushes : List PReg) : pushes.length ≤ (revPushBytes pushes).length := by
  induction pushes with
  | nil => simp
  | cons r rest ih =>
    have h1 : 1 ≤ (encPush r).length := by unfold encPush; split <;> simp
    simp only [revPushBytes, List.flatMap_cons, List.length_append, List.length_reverse,
      List.length_cons] at ih ⊢
    omega

/-- **The analysis after any `push…`** that follows the function start or `push rbp; mov rbp, rsp`
(or any bytes `pre` at which the backward scan stops with `r`). -/
theorem anaX64_pushes (text : List Nat) (pc : Nat) (pushes : List PReg) (pre : List Nat) (r : RuleX64)
    (hpc : pc ≤ text.length) (hcode : (text.take pc).reverse = revPushBytes pushes ++ pre)
    (hnext : nextExpectedInPrologueX64 (text.drop pc) = true)
    (hwf : ∀ r ∈ pushes, r.lo < 8) (hlen : pushes.length < U16) (hpre : NoRexHead pre)
    (hr : ∀ fuel, prologueScanX64 (fuel + 1) pre pushes.length = some r) :
    anaX64 text pc = some (some r) := by
  obtain ⟨f, hf⟩ : ∃ f, (text.take pc).length + 1 = f + 1 + pushes.length :=
    ⟨(text.take pc).length - pushes.length, by
      have := length_le_revPushBytes pushes
      have : (text.take pc).length = (revPushBytes pushes ++ pre).length := by rw [← hcode]; simp
      rw [this, List.length_append]; omega⟩
  apply anaX64_of_prologue hpc hnext
  rw [hf, hcode, prologueScan_pushes pre hpre pushes 0 _ hwf (by omega), Nat.zero_add, hr]

/-- **x86-64 prologues, before the frame pointer is set up.** Stopped after the function's first
`n` pushes (any registers, any order; the next instruction is another prologue instruction):
the analysed rule finds the return address above the pushed words and restores the caller's
`rsp`; `rbp` still holds the caller's value. -/
theorem C02_x64_prologue_pushes_exact (text : List Nat) (pc : Nat) (pushes : List PReg)
    (regs : RegsX64) (mem : Mem) (ra : Nat)
    (hpc : pc ≤ text.length) (hcode : (text.take pc).reverse = revPushBytes pushes)
    (hnext : nextExpectedInPrologueX64 (text.drop pc) = true)
    (hwf : ∀ r ∈ pushes, r.lo < 8) (hlen : pushes.length + 2 < U16)
    (hra : mem (regs.sp + 8 * pushes.length) = some ra) (hra0 : ra ≠ 0)
    (hfit : regs.sp + 8 * pushes.length + 8 < U64) :
    anaX64 text pc = some (some (.offsetSp (pushes.length + 1))) ∧
      execX64 (.offsetSp (pushes.length + 1)) true regs mem =
        .ret (.frame ra) (afterX64 regs ra (regs.sp + 8 * pushes.length + 8) regs.bp) :=
  ⟨anaX64_pushes text pc pushes [] _ hpc (by rw [hcode, List.append_nil]) hnext hwf (by omega)
      (fun _ _ h => nomatch h) (fun _ => by simp [prologueScanX64, show pushes.length + 1 < U16 by omega]),
    execX64_offsetSp_frame (by omega) (by omega) hfit (by simpa using hra) hra0⟩

/-- **x86-64 prologues, after `push rbp; mov rbp, rsp`.** Stopped after the frame setup and any
further pushes: the rule is the frame pointer rule (whose execution is the frame-pointer
convention, `C04_x64_fp_rule_is_convention`). -/
theorem C02_x64_prologue_after_frame_setup (text : List Nat) (pc : Nat) (pushes : List PReg)
    (hpc : pc ≤ text.length)
    (hcode : (text.take pc).reverse = revPushBytes pushes ++ [0xe5, 0x89, 0x48, 0x55])
    (hnext : nextExpectedInPrologueX64 (text.drop pc) = true)
    (hwf : ∀ r ∈ pushes, r.lo < 8) (hlen : pushes.length + 2 < U16) :
    anaX64 text pc = some (some .useFramePointer) :=
  anaX64_pushes text pc pushes _ _ hpc hcode hnext hwf (by omega)
    (fun _ _ h => by injection h with h _; subst h; decide) (fun _ => by simp [prologueScanX64])

/-! ## x86-64 bodies -/

/-- The frameless rule when the opcode lists `rbp`: its slot is `pos + 2` words below the CFA. -/
theorem framelessRuleX64_bp {k pos : Nat} {saved : List (Option CuiReg)}
    (hpos : bpPosFromOutside saved = some pos) (hle : pos + 2 ≤ k) (hk : k < 32768) :
    framelessRuleX64 (k * 8) saved = .exec (.offsetSpAndRestoreBp k ((k - 2 - pos : Nat) : Int)) := by
  have hd : (((k * 8 : Nat) : Int) - 16 - (pos : Int) * 8).tdiv 8 = ((k - 2 - pos : Nat) : Int) := by
    rw [Int.tdiv_eq_ediv_of_nonneg (by omega)]; omega
  simp only [framelessRuleX64, hpos]
  rw [Nat.mul_div_cancel k (by decide), hd, if_pos (by omega)]

/-- **Frameless bodies.** For a frameless function whose frame is `S` bytes including the return
address (`S` a multiple of 8), the rule derived from the opcode restores `rsp + S`, reads the
return address from the top word, and - if the opcode lists `rbp` at position `pos` counted
from the outermost saved register - `rbp` from the word `16 + 8·pos` below the top. -/
theorem C02_x64_frameless_body_exact (S : Nat) (saved : List (Option CuiReg)) (first : Bool)
    (regs : RegsX64) (mem : Mem) (ra : Nat) (h8 : S % 8 = 0) (hS : 8 ≤ S) (hSmax : S < 262144)
    (hfit : regs.sp + S < U64) (hra : mem (regs.sp + S - 8) = some ra) (hra0 : ra ≠ 0) :
    (bpPosFromOutside saved = none →
      framelessRuleX64 S saved = .exec (.offsetSp (S / 8)) ∧
      execX64 (.offsetSp (S / 8)) first regs mem =
        .ret (.frame ra) (afterX64 regs ra (regs.sp + S) regs.bp)) ∧
    (∀ pos b, bpPosFromOutside saved = some pos → 16 + 8 * pos ≤ S →
      mem (regs.sp + S - 16 - 8 * pos) = some b →
      ∃ rule, framelessRuleX64 S saved = .exec rule ∧
        execX64 rule first regs mem = .ret (.frame ra) (afterX64 regs ra (regs.sp + S) b)) := by
  obtain ⟨k, rfl⟩ : ∃ k, S = k * 8 := ⟨S / 8, by omega⟩
  rw [Nat.mul_div_cancel k (by decide)]
  constructor
  · intro hnone
    exact ⟨by simp [framelessRuleX64, hnone], execX64_offsetSp_frame rfl (by omega) hfit hra hra0⟩
  · intro pos b hpos hle hb
    exact ⟨_, framelessRuleX64_bp hpos (by omega) (by omega),
      execX64_offsetSpAndRestoreBp_frame rfl (by omega) hfit (by omega) (by omega) (by unfold U16; omega)
        hb hra hra0⟩

/-- The opcode lists the saved registers last-pushed first (LLVM reverses the push order before
encoding; libunwind reads it back the same way). If the prologue pushes `pushes` in this order,
the position used above is the index of `rbp` in push order: the `j`-th pushed register
(counting from 0) is found `16 + 8·j` bytes below the CFA. -/
theorem C02_x64_rbp_position_is_push_index (pushes : List CuiReg) :
    bpPosFromOutside ((pushes.reverse).map some) = pushes.findIdx? (· == .rbp) := by
  unfold bpPosFromOutside
  congr 1
  rw [← List.map_reverse, List.reverse_reverse]
  induction pushes with
  | nil => rfl
  | cons a rest ih => simp [List.filterMap_cons, ih]

/-- Frame-based entries use the frame pointer rule in caller frames and in first-frame bodies
(when instruction analysis does not recognise a prologue or epilogue at pc). -/
theorem C02_x64_frame_based_is_fp_rule (offsetInFn : Nat) (fnBytes : Option (List Nat)) :
    cuiUnwindX64 .frameBased false offsetInFn fnBytes = some (.exec .useFramePointer) ∧
    (∀ bytes, fnBytes = some bytes → anaX64 bytes offsetInFn = some none →
      cuiUnwindX64 .frameBased true offsetInFn fnBytes = some (.exec .useFramePointer)) := by
  constructor
  · simp [cuiUnwindX64]
  · intro bytes hb ha; simp [cuiUnwindX64, hb, ha]

/-- Whatever instruction analysis finds in the first frame wins over the opcode. -/
theorem C02_x64_analysis_takes_precedence (op : CuiOpX64) (offsetInFn : Nat) (bytes : List Nat)
    (rule : RuleX64) (ha : anaX64 bytes offsetInFn = some (some rule)) :
    cuiUnwindX64 op true offsetInFn (some bytes) = some (.exec rule) := by
  simp [cuiUnwindX64, ha]

/-- Caller frames never consult the text bytes. -/
theorem C02_x64_caller_frames_ignore_analysis (op : CuiOpX64) (o1 o2 : Nat) (b : List Nat)
    (hop : ∀ i a s, op ≠ .framelessIndirect i a s) :
    cuiUnwindX64 op false o1 (some b) = cuiUnwindX64 op false o2 none := by
  cases op <;> simp_all [cuiUnwindX64]

/-! ## Dispatch (`CompactUnwindInfoUnwinder::unwind_frame`) -/

theorem C02_stubs_take_precedence {Op Rule : Type} (d : CuiData Op)
    (unwindFn : Op → Bool → Nat → Option (List Nat) → Option (CuiRes Rule))
    (stubRule fnStartRule : Rule) (stubHelperRule : Nat → Rule) (rel : Nat)
    (h : d.stubs.1 ≤ rel ∧ rel < d.stubs.2) :
    cuiDispatch d unwindFn stubRule fnStartRule stubHelperRule rel true = some (.exec stubRule) ∧
    cuiDispatch d unwindFn stubRule fnStartRule stubHelperRule rel false = some .err := by
  simp [cuiDispatch, h]

theorem C02_stub_helper_dispatch {Op Rule : Type} (d : CuiData Op)
    (unwindFn : Op → Bool → Nat → Option (List Nat) → Option (CuiRes Rule))
    (stubRule fnStartRule : Rule) (stubHelperRule : Nat → Rule) (rel : Nat)
    (hs : ¬ (d.stubs.1 ≤ rel ∧ rel < d.stubs.2))
    (h : d.stubHelper.1 ≤ rel ∧ rel < d.stubHelper.2) :
    cuiDispatch d unwindFn stubRule fnStartRule stubHelperRule rel true =
      some (.exec (stubHelperRule (rel - d.stubHelper.1))) ∧
    cuiDispatch d unwindFn stubRule fnStartRule stubHelperRule rel false = some .err := by
  simp [cuiDispatch, hs, h]

theorem C02_function_start_is_leaf {Op Rule : Type} (d : CuiData Op)
    (unwindFn : Op → Bool → Nat → Option (List Nat) → Option (CuiRes Rule))
    (stubRule fnStartRule : Rule) (stubHelperRule : Nat → Rule) (rel : Nat) (f : CuiFunc Op)
    (hs : ¬ (d.stubs.1 ≤ rel ∧ rel < d.stubs.2))
    (hh : ¬ (d.stubHelper.1 ≤ rel ∧ rel < d.stubHelper.2))
    (hl : cuiLookup d.funcs rel = some f) (hstart : rel = f.start) :
    cuiDispatch d unwindFn stubRule fnStartRule stubHelperRule rel true = some (.exec fnStartRule) := by
  subst hstart
  simp [cuiDispatch, hs, hh, hl]

theorem C02_outside_every_function {Op Rule : Type} (d : CuiData Op)
    (unwindFn : Op → Bool → Nat → Option (List Nat) → Option (CuiRes Rule))
    (stubRule fnStartRule : Rule) (stubHelperRule : Nat → Rule) (rel : Nat)
    (hs : ¬ (d.stubs.1 ≤ rel ∧ rel < d.stubs.2))
    (hh : ¬ (d.stubHelper.1 ≤ rel ∧ rel < d.stubHelper.2))
    (hl : cuiLookup d.funcs rel = none) :
    cuiDispatch d unwindFn stubRule fnStartRule stubHelperRule rel true = some (.exec stubRule) ∧
    cuiDispatch d unwindFn stubRule fnStartRule stubHelperRule rel false = some .err := by
  simp [cuiDispatch, hs, hh, hl]

/-- The function bytes handed to the architecture are exactly the function's slice of the text,
and only if the text covers the whole function. -/
theorem C02_function_bytes_are_the_function {Op Rule : Type} (d : CuiData Op)
    (unwindFn : Op → Bool → Nat → Option (List Nat) → Option (CuiRes Rule))
    (stubRule fnStartRule : Rule) (stubHelperRule : Nat → Rule) (rel : Nat) (f : CuiFunc Op)
    (first : Bool) (textOff : Nat) (bytes : List Nat)
    (hs : ¬ (d.stubs.1 ≤ rel ∧ rel < d.stubs.2))
    (hh : ¬ (d.stubHelper.1 ≤ rel ∧ rel < d.stubHelper.2))
    (hl : cuiLookup d.funcs rel = some f) (hstart : ¬ (first = true ∧ rel = f.start))
    (ht : d.text = some (textOff, bytes)) (h1 : textOff ≤ f.start) (h2 : f.start ≤ f.stop)
    (h3 : f.stop - textOff ≤ bytes.length) :
    cuiDispatch d unwindFn stubRule fnStartRule stubHelperRule rel first =
      unwindFn f.op first (rel - f.start)
        (some ((bytes.drop (f.start - textOff)).take (f.stop - f.start))) := by
  simp only [cuiDispatch, hs, hh, hl, if_false]
  rw [if_neg (by simpa using hstart)]
  simp only [ht]
  rw [if_pos (by refine ⟨h1, by omega, by omega, h3⟩)]

/-! ## `__stub_helper` (documented `dyld_stub_binder` layout) -/

/-- Words on the stack above `rsp` besides the return address, by offset into `__stub_helper`:
the 16-byte header `lea r11, …` (7 bytes; entered by a `jmp` from an entry that pushed its
index) `; push r11 ; jmp …; nop`, then 10-byte entries `push imm32 (5) ; jmp header (5)`. -/
def stubHelperExtraWordsX64 (offset : Nat) : Nat :=
  if offset < 7 then 1 else if offset < 0x10 then 2 else if (offset - 0x10) % 10 < 5 then 0 else 1

theorem C02_x64_stub_helper_exact (offset : Nat) (regs : RegsX64) (mem : Mem) (ra : Nat)
    (hra : mem (regs.sp + 8 * stubHelperExtraWordsX64 offset) = some ra) (hra0 : ra ≠ 0)
    (hfit : regs.sp + 8 * stubHelperExtraWordsX64 offset + 8 < U64) :
    execX64 (stubHelperRuleX64 offset) true regs mem =
      .ret (.frame ra) (afterX64 regs ra (regs.sp + 8 * stubHelperExtraWordsX64 offset + 8) regs.bp) := by
  unfold stubHelperRuleX64 stubHelperExtraWordsX64 at *
  split at hra <;> rename_i c1
  · simp only [c1, if_true] at hfit ⊢
    exact execX64_offsetSp_frame (by omega) (by omega) hfit (by simpa using hra) hra0
  · split at hra <;> rename_i c2
    · simp only [c1, c2, if_true, if_false] at hfit ⊢
      exact execX64_offsetSp_frame (by omega) (by omega) hfit (by simpa using hra) hra0
    · split at hra <;> rename_i c3
      · simp only [c1, c2, c3, if_true, if_false] at hfit ⊢
        exact execX64_justReturn_frame hfit hra hra0
      · simp only [c1, c2, c3, if_true, if_false] at hfit ⊢
        exact execX64_offsetSp_frame (by omega) (by omega) hfit (by simpa using hra) hra0

/-! ## arm64 bodies and stubs -/

/-- **arm64 frameless bodies** (first frame only - a frameless function cannot have called
anyone without saving lr): `sp + size`, return address in `lr`, `fp` untouched. -/
theorem C02_a64_frameless_body_exact (size : Nat) (regs : RegsA64) (mem : Mem)
    (h16 : size % 16 = 0) (hpos : 0 < size) (hmax : size < 1048576) (hfit : regs.sp + size < U64)
    (hra0 : strip regs.mask regs.lr ≠ 0) :
    cuiUnwindA64 (.frameless size) false 0 none = some .err ∧
    (∀ off, cuiUnwindA64 (.frameless size) true off none = some (.exec (.offsetSp (size / 16)))) ∧
    execA64 (.offsetSp (size / 16)) true regs mem =
      .ret (.frame (strip regs.mask regs.lr)) (afterA64 regs regs.lr (regs.sp + size) regs.fp) := by
  refine ⟨by simp [cuiUnwindA64], ?_, ?_⟩
  · intro off
    have : size ≠ 0 := by omega
    simp [cuiUnwindA64, this]
  · have hmul : size / 16 * 16 = size := by omega
    rw [execA64_offsetSp (by omega), hmul]
    exact finishA64_ok hra0 (by intro h; cases h)

/-- arm64 frame-based entries use the frame pointer rule unless instruction analysis
recognises a prologue or epilogue at pc; null entries are treated as leaves in the first frame
and fail in caller frames. -/
theorem C02_a64_frame_based_and_null (off : Nat) :
    cuiUnwindA64 .frameBased false off none = some (.exec .useFramePointer) ∧
    (∀ bytes, anaA64 bytes off = some none →
      cuiUnwindA64 .frameBased true off (some bytes) = some (.exec .useFramePointer)) ∧
    (∀ b, cuiUnwindA64 .null true off b = some (.exec .noOp)) ∧
    (∀ b, cuiUnwindA64 .null false off b = some .err) := by
  refine ⟨by simp [cuiUnwindA64], ?_, ?_, ?_⟩
  · intro bytes h; simp [cuiUnwindA64, h]
  · intro b; simp [cuiUnwindA64]
  · intro b; simp [cuiUnwindA64]

/-- arm64 `__stub_helper`: the header pushes two registers in its 4th instruction
(`stp x16, x17, [sp, #-16]!`); entries push nothing. -/
def stubHelperExtraBytesA64 (offset : Nat) : Nat :=
  if offset < 0xc then 0 else if offset < 0x18 then 16 else 0

theorem C02_a64_stub_helper_exact (offset : Nat) (regs : RegsA64) (mem : Mem)
    (hfit : regs.sp + 16 < U64) (hra0 : strip regs.mask regs.lr ≠ 0) :
    execA64 (stubHelperRuleA64 offset) true regs mem =
      .ret (.frame (strip regs.mask regs.lr))
        (afterA64 regs regs.lr (regs.sp + stubHelperExtraBytesA64 offset) regs.fp) := by
  unfold stubHelperRuleA64 stubHelperExtraBytesA64
  split
  · simp only [execA64, Bool.not_true, Bool.false_eq_true, if_false]
    exact finishA64_ok hra0 (by intro h; cases h)
  · split
    · rw [execA64_offsetSp (by omega)]
      exact finishA64_ok hra0 (by intro h; cases h)
    · simp only [execA64, Bool.not_true, Bool.false_eq_true, if_false]
      exact finishA64_ok hra0 (by intro h; cases h)

/-! ## Non-vacuity -/

/-- `pop rbx; pop r14; pop rbp; ret` -/
example : anaX64 [0x90, 0x5b, 0x41, 0x5e, 0x5d, 0xc3] 1 = some (some (.offsetSpAndRestoreBp 4 2)) := by
  decide

/-- `pop r13; ret` must not be taken for `pop rbp` (`41 5d`). -/
example : anaX64 [0x41, 0x5d, 0xc3] 0 = some (some (.offsetSp 2)) := by decide

/-- `push rbp; mov rbp, rsp; push rbx | push r14; sub rsp, 0x18` -/
example : anaX64 [0x55, 0x48, 0x89, 0xe5, 0x53, 0x41, 0x56, 0x48, 0x83, 0xec, 0x18] 5 =
    some (some .useFramePointer) := by decide

/-- `push r15; push rbx | sub rsp, 0x28` -/
example : anaX64 [0x41, 0x57, 0x53, 0x48, 0x83, 0xec, 0x28, 0x90] 3 = some (some (.offsetSp 3)) := by
  decide

end FH
