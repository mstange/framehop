import FH.Walk
import FH.Dwarf
/-!
# C10 — Progress: caller-frame steps advance, no state repeats, walks terminate
-/
namespace FH

/-- x86-64, rule-based step in a caller frame: sp never decreases, the new `ip` is the
returned address, and success never leaves both sp and address unchanged. -/
theorem C10_x64_rule_step {rule : RuleX64} {regs regs' : RegsX64} {mem : Mem} {ra : Nat}
    (hr : rule.WF) (h : execX64 rule false regs mem = .ret (.frame ra) regs') :
    regs.sp ≤ regs'.sp ∧ regs'.ip = ra ∧ ¬(regs'.sp = regs.sp ∧ ra = regs.ip) := by
  have f := execX64_frame h
  exact ⟨f.sp_mono, f.ip_eq, f.advance⟩

/-- x86-64 frame pointer steps strictly increase sp (first frame or not). -/
theorem C10_x64_fp_step_strict {first : Bool} {regs regs' : RegsX64} {mem : Mem} {ra : Nat}
    (h : execX64 .useFramePointer first regs mem = .ret (.frame ra) regs') :
    regs.sp < regs'.sp :=
  (execX64_frame_sp h).2 rfl

/-- The caller-frame half of `JustReturnIfFirstFrameOtherwiseFp` is a frame pointer step too. -/
theorem C10_x64_uncovered_caller_step_strict {regs regs' : RegsX64} {mem : Mem} {ra : Nat}
    (h : execX64 .justReturnIfFirstFrameOtherwiseFp false regs mem = .ret (.frame ra) regs') :
    regs.sp < regs'.sp :=
  (execX64_frame_sp h).2 rfl

/-- aarch64: every successful caller-frame rule step strictly increases sp. -/
theorem C10_a64_rule_step {rule : RuleA64} {regs regs' : RegsA64} {mem : Mem} {ra : Nat}
    (hr : rule.WF) (h : execA64 rule false regs mem = .ret (.frame ra) regs') :
    regs.sp < regs'.sp :=
  (execA64_frame h).caller_advance rfl

/-- The uncacheable DWARF path, x86-64, caller frame: a successful step strictly increases sp
(the `cfa <= sp` guard; since 23817bc also for `cfa = sp`) and leaves `ip` at the return
address - for every row, whatever its CFA and register rules are (expressions included). -/
theorem C10_x64_generic_caller_step {row : Row} {regs regs' : RegsX64} {mem : Mem} {ra : Nat}
    (h : genericX64 row false regs mem = .ok ra regs') : regs.sp < regs'.sp ∧ regs'.ip = ra := by
  unfold genericX64 at h
  split at h
  · cases h
  · rename_i cfa _
    simp only [] at h
    split at h
    · cases h
    · split at h
      · cases h
      · split at h
        · cases h
        · rename_i hle
          injection h with h1 h2
          subst h2
          simp only [Bool.not_false, true_and, Nat.not_le] at hle
          exact ⟨by simpa [RegsX64.sp] using hle, h1.symm ▸ rfl⟩

/-- The uncacheable DWARF path, aarch64, caller frame: a step either ends the walk (null return
address, registers untouched: the row declares the return address undefined) or strictly
increases sp. -/
theorem C10_a64_generic_caller_step {row : Row} {regs regs' : RegsA64} {mem : Mem} {ra : Nat}
    (h : genericA64 row false regs mem = .ok ra regs') :
    (ra = 0 ∧ regs' = regs) ∨ regs.sp < regs'.sp := by
  unfold genericA64 at h
  split at h
  · injection h with h1 h2
    exact Or.inl ⟨h1.symm, h2.symm⟩
  · split at h
    · cases h
    · rename_i cfa _
      simp only [Bool.not_false, if_true] at h
      split at h
      · cases h
      · rename_i hle
        split at h
        · cases h
        · split at h
          · cases h
          · injection h with h1 h2
            subst h2
            right
            simp only [RegsA64.setLr]
            omega

/-- Walk level, x86-64: along any sequence of successful caller-frame rule steps (any rules,
any registers, any memory — including self-referential frame pointer chains) no
`(address, sp)` state is visited twice. Since a repeated `(address, sp, fp)` state would
repeat `(address, sp)`, this is the property's "no state is ever visited twice". -/
theorem C10_x64_no_state_repeats {mem : Mem} {g : Nat → RegsX64} {rules : Nat → RuleX64}
    {ras : Nat → Nat} {n : Nat} (hr : ∀ i, (rules i).WF)
    (h : ∀ i, i < n → execX64 (rules i) false (g i) mem = .ret (.frame (ras i)) (g (i + 1))) :
    ∀ i j, i < j → j ≤ n → ((g i).ip, (g i).sp) ≠ ((g j).ip, (g j).sp) := by
  intro i j hij hj heq
  have hw : ∀ i, i < n → Advances mem ⟨(g i).ip, (g i).sp⟩ ⟨(g (i + 1)).ip, (g (i + 1)).sp⟩ :=
    fun i hi => advances_of_frameX64 (execX64_frame (h i hi))
  have := walk_no_repeat (f := fun i => ⟨(g i).ip, (g i).sp⟩) hw i j hij hj
  apply this
  injection heq with h1 h2
  simp [h1, h2]

/-- Walk level, both architectures: any walk whose steps `Advance` has fewer than
`2·2^64 + 2` steps, hence terminates (with `Ok(None)` or `Err`). -/
theorem C10_walk_terminates {mem : Mem} {f : Nat → St} {n : Nat}
    (h : ∀ i, i < n → Advances mem (f i) (f (i + 1))) (hb : ∀ i, i ≤ n → (f i).sp < U64) :
    n < 2 * U64 + 2 :=
  walk_length_bounded h hb

/-- Walk level, aarch64: sp strictly increases along successful caller-frame rule steps. -/
theorem C10_a64_walk_strict {mem : Mem} {g : Nat → RegsA64} {rules : Nat → RuleA64}
    {ras : Nat → Nat} {n : Nat} (hr : ∀ i, (rules i).WF)
    (h : ∀ i, i < n → execA64 (rules i) false (g i) mem = .ret (.frame (ras i)) (g (i + 1))) :
    ∀ i, i < n → (g i).sp < (g (i + 1)).sp :=
  fun i hi => C10_a64_rule_step (hr i) (h i hi)

-- Non-vacuity: the repo's own unit-test vector (unwind_rule.rs, test_basic), second step.
example :
    let mem : Mem := fun a => if a = 0x28 then some 0x100200 else if a = 0x20 then some 0x40 else none
    let regs : RegsX64 := ⟨0x100300, fun i => if i = RSP then 0x18 else if i = RBP then 0x20 else 0⟩
    ∃ regs', execX64 .useFramePointer false regs mem = .ret (.frame 0x100200) regs' ∧
      regs'.sp = 0x30 := by
  refine ⟨_, rfl, ?_⟩
  decide

end FH
