import FH.Props.C11Path
/-!
# C11 — where the error clause stops: unreadable slots on the generic (not rule-based) path

C11's second sentence is about *rule-based* steps: an unreadable slot surfaces as
`Err(CouldNotReadStack(a))`. A row that cannot be compressed into a rule (a frame of 512 KiB,
a return address outside CFA-8, a CFA expression) is evaluated generically; when a slot it needs
is unreadable that evaluation fails with a DWARF error and `with_cache` executes the frame-pointer
fallback *for this call* (nothing is cached). What the caller then sees is whatever the
frame-pointer rule says about the current registers - in particular, with a null frame-pointer
register, the end of the chain. These theorems state that behaviour exactly; the truncation
oracle of the `scn` engine accepts it only for functions that take this path.
-/
namespace FH

/-- x86-64 generic path: if the return-address slot the row names is unreadable (and so is
`CFA-8`), the evaluation fails - with a DWARF error, not with a stack-read error. -/
theorem C11_x64_generic_unreadable_ra_fails (row : Row) (first : Bool) (regs : RegsX64)
    (mem : Mem) (cfa : Nat) (hcfa : evalCfa (getX64 regs) row.cfa = some cfa)
    (hra : evalRegRule (getX64 regs) mem row.ra cfa regs.ip = none)
    (hslot : 8 ≤ cfa → mem (cfa - 8) = none) :
    genericX64 row first regs mem = .err .couldNotRecoverRa := by
  unfold genericX64
  simp only [hcfa, hra]
  by_cases h8 : cfa < 8
  · simp only [if_pos h8]
  · simp only [if_neg h8, hslot (by omega)]

/-- Whatever makes the generic evaluation fail, the call's outcome is the frame-pointer
fallback executed on the unchanged registers, and nothing is cached. -/
theorem C11_generic_failure_is_the_fallback_step (A : Arch) (u : Unw) (addr : FrameAddr)
    (regs : A.Regs) (mem : Mem) (i rel : Nat) (m : Module) (row : Row) (e : DwarfErr)
    (hf : findModule u.mods addr.lookup = some (i, rel)) (hm : u.mods[i]? = some m)
    (hp : plan A m rel (!addr.isReturn) = .generic row)
    (hg : A.generic row (!addr.isReturn) regs mem = .err e) :
    missPath A u addr regs mem = (none, A.exec A.fallback (!addr.isReturn) regs mem) := by
  rw [missPath_of_plan hf hm hp]
  simp only [runPlan, hg]

/-- Hence, on x86-64, a truncated stack below a generically evaluated frame is reported as the
end of the stack when rbp is null (a program that does not use frame pointers), and as a
frame-pointer step or its error otherwise - never as `CouldNotReadStack` of the slot the row
named. -/
theorem C11_x64_generic_failure_with_null_rbp_ends_the_walk (u : Unw) (addr : FrameAddr)
    (regs : RegsX64) (mem : Mem) (i rel : Nat) (m : Module) (row : Row) (e : DwarfErr)
    (hf : findModule u.mods addr.lookup = some (i, rel)) (hm : u.mods[i]? = some m)
    (hp : plan archX64 m rel (!addr.isReturn) = .generic row)
    (hg : archX64.generic row (!addr.isReturn) regs mem = .err e) (hbp : regs.bp = 0) :
    missPath archX64 u addr regs mem = (none, .ret .done regs) := by
  rw [C11_generic_failure_is_the_fallback_step archX64 u addr regs mem i rel m row e hf hm hp hg]
  show (none, execX64 .useFramePointer (!addr.isReturn) regs mem) = _
  simp only [execX64, fpStepX64, hbp, if_true]
  rfl

-- Non-vacuity of the first theorem: a 512 KiB frame (CFA = rsp + 0x80000, return address at
-- CFA-8) on a stack of which nothing is readable.
example : genericX64 ⟨.regOff .sp 0x80000, .sameValue, .offset (-8)⟩ false
    ⟨0x401131, fun i => if i = RSP then 0x7ffc0ff7fff8 else 0⟩ (fun _ => none) =
      .err .couldNotRecoverRa := by
  apply C11_x64_generic_unreadable_ra_fails (cfa := 0x7ffc0ffffff8)
  · decide
  · decide
  · intro _; rfl

end FH
