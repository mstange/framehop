import FH.Props.C10Path
/-!
# C10 — walk level, any mixture of unwinding mechanisms (x86-64 and aarch64)

A walk made of cache-missing `unwind_frame` calls for return addresses (caller frames), over
arbitrary registered modules of every format, arbitrary registers and stack contents: no
`(address, sp)` state is visited twice and the walk is finite. (Cache hits execute a rule that a
miss would have produced - C06 - so the statement carries over to warm caches.)
-/
namespace FH

theorem x64_walk_advances (u : Unw) (hu : u.WF) (mem : Mem) (g : Nat → RegsX64)
    (addrs : Nat → FrameAddr) (ras : Nat → Nat) (n : Nat) (hret : ∀ i, (addrs i).isReturn = true)
    (h : ∀ i, i < n → (missPath archX64 u (addrs i) (g i) mem).2 = .ret (.frame (ras i)) (g (i + 1)))
    (i : Nat) (hi : i < n) :
    Advances mem ⟨(g i).ip, (g i).sp⟩ ⟨(g (i + 1)).ip, (g (i + 1)).sp⟩ :=
  C10_x64_unwind_frame_caller_step_Advances u hu (addrs i) (g i) (g (i + 1)) mem (ras i) (hret i)
    (h i hi)

/-- **x86-64: no state twice, whatever mechanism produced each step.** `g i` are the registers
before step `i`, `addrs i` the return addresses looked up. -/
theorem C10_x64_no_state_repeats_any_path (u : Unw) (hu : u.WF) (mem : Mem) (g : Nat → RegsX64)
    (addrs : Nat → FrameAddr) (ras : Nat → Nat) (n : Nat) (hret : ∀ i, (addrs i).isReturn = true)
    (h : ∀ i, i < n → (missPath archX64 u (addrs i) (g i) mem).2 = .ret (.frame (ras i)) (g (i + 1))) :
    ∀ i j, i < j → j ≤ n → ((g i).ip, (g i).sp) ≠ ((g j).ip, (g j).sp) := by
  intro i j hij hj heq
  have := walk_no_repeat (f := fun i => ⟨(g i).ip, (g i).sp⟩)
    (x64_walk_advances u hu mem g addrs ras n hret h) i j hij hj
  apply this
  injection heq with h1 h2
  simp [h1, h2]

/-- **x86-64: walks are finite** (fewer than `2·2^64 + 2` caller-frame steps; with a finite
readable stack far fewer: every second step raises sp). -/
theorem C10_x64_walk_is_finite_any_path (u : Unw) (hu : u.WF) (mem : Mem) (g : Nat → RegsX64)
    (addrs : Nat → FrameAddr) (ras : Nat → Nat) (n : Nat) (hret : ∀ i, (addrs i).isReturn = true)
    (h : ∀ i, i < n → (missPath archX64 u (addrs i) (g i) mem).2 = .ret (.frame (ras i)) (g (i + 1)))
    (hb : ∀ i, i ≤ n → (g i).sp < U64) : n < 2 * U64 + 2 := by
  exact walk_length_bounded (f := fun i => ⟨(g i).ip, (g i).sp⟩)
    (x64_walk_advances u hu mem g addrs ras n hret h) hb

/-- **aarch64: sp strictly increases along the caller frames of any walk**, hence no state
twice and at most `2^64` steps. -/
theorem C10_a64_walk_strict_any_path (u : Unw) (hu : u.WF) (mem : Mem) (g : Nat → RegsA64)
    (addrs : Nat → FrameAddr) (ras : Nat → Nat) (n : Nat) (hret : ∀ i, (addrs i).isReturn = true)
    (h : ∀ i, i < n → (missPath archA64 u (addrs i) (g i) mem).2 = .ret (.frame (ras i)) (g (i + 1))) :
    ∀ i j, i < j → j ≤ n → (g i).sp < (g j).sp := by
  intro i j hij
  induction j with
  | zero => omega
  | succ k ih =>
    intro hk
    have step := C10_a64_unwind_frame_caller_step_advances u hu (addrs k) (g k) (g (k + 1)) mem (ras k)
      (hret k) (h k (by omega))
    by_cases e : i = k
    · subst e; exact step
    · have := ih (by omega) (by omega)
      omega

end FH
