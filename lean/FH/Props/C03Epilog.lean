import FH.PeEpilog
import FH.Props.C03
/-!
# C03 — exact inside epilogs
-/
namespace FH

/-- **Exact at every instruction boundary of an epilog** `add rsp, n; pop r…; ret` (stopped
before the `add`: as stated; stopped later: `n = 0` and the pops that are left - in particular
`pops = []` for a thread stopped on the `ret`): simulating the rest of the epilog pops exactly
what the documented procedure pops from the frame. -/
theorem C03_epilog_unwind_is_the_procedure (fr : Option Nat) (A n : Nat) (mem : Mem)
    (pops : List Nat) (r : Nat → Nat) (ra : Nat) (r' : Nat → Nat) (hsp : r RSP = A)
    (hn : RSP ∉ pops.map peReg) (hlt : A + n + 8 * pops.length + 8 < U64)
    (hspec : popSpecLoop mem (pops.map peReg) (A + n) (setReg r RSP (A + n)) = some (ra, r')) :
    interpEpilog fr mem (.addSP n :: pops.map .pop) r = .ok ra r' := by
  have c : cadd (r RSP) n = some (A + n) := by rw [hsp]; exact cadd_eq_some (by omega)
  simp only [interpEpilog, c]
  rw [← setReg_overwrite r RSP (A + n) (A + n)]
  exact interpEpilog_pops fr mem pops _ _ ra r' hlt hspec

/-- The same for a function with a frame register: `lea rsp, [fr + x]` re-establishes the stack
pointer from the frame register wherever `rsp` currently is. -/
theorem C03_epilog_with_frame_register (f fo A n x : Nat) (mem : Mem) (pops : List Nat)
    (r : Nat → Nat) (ra : Nat) (r' : Nat → Nat) (hfp : r (peReg f) = A + fo) (hx : fo + x = n)
    (hn : RSP ∉ pops.map peReg) (hlt : A + n + 8 * pops.length + 8 < U64)
    (hspec : popSpecLoop mem (pops.map peReg) (A + n) (setReg r RSP (A + n)) = some (ra, r')) :
    interpEpilog (some f) mem (.addSPFromFP x :: pops.map .pop) r = .ok ra r' := by
  have c : cadd (r (peReg f)) x = some (A + n) := by
    rw [hfp, ← hx, ← Nat.add_assoc]; exact cadd_eq_some (by omega)
  simp only [interpEpilog, c]
  rw [← setReg_overwrite r RSP (A + n) (A + n)]
  exact interpEpilog_pops (some f) mem pops _ _ ra r' hlt hspec

/-- **Body and epilog agree**: stopped on the first instruction of the epilog, the epilog
simulation (first frames) and the unwind codes (what a caller frame at the same address would
use) give the same answer. -/
theorem C03_epilog_agrees_with_unwind_codes (A n : Nat) (mem : Mem) (pops : List Nat)
    (r : Nat → Nat) (ra : Nat) (r' : Nat → Nat) (hsp : r RSP = A) (hn : RSP ∉ pops.map peReg)
    (hlt : A + n + 8 * pops.length + 8 < U64)
    (hspec : popSpecLoop mem (pops.map peReg) (A + n) (setReg r RSP (A + n)) = some (ra, r')) :
    interpEpilog none mem (.addSP n :: pops.map .pop) r =
      interpOps none 0 mem ([.unStackAlloc n] ++ pops.map .popNonVolatile) r := by
  rw [C03_epilog_unwind_is_the_procedure none A n mem pops r ra r' hsp hn hlt hspec]
  have hb := C03_body_unwind_is_the_procedure none 0 A n mem [] pops r ra r'
    (by simpa [BaseIs] using hsp) (by intro p hp; cases hp) hn hlt (by simpa [restoreSaves] using hspec)
  simpa using hb.symm

/-- Non-vacuity: stopped on `pop rbx` (one pop left) of `add rsp, 0x20; pop rbx; ret`. -/
example :
    let mem : Mem := fun a => if a = 0x1020 then some 0xb0b else if a = 0x1028 then some 0x401000 else none
    let r : Nat → Nat := fun i => if i = RSP then 0x1020 else 5
    interpEpilog none mem (.addSP 0 :: [3].map .pop) r =
      .ok 0x401000 (setReg (setReg (setReg r RSP 0x1020) 3 0xb0b) RSP 0x1030) := by
  intro mem r
  exact C03_epilog_unwind_is_the_procedure none 0x1020 0 mem [3] r 0x401000 _ rfl (by decide)
    (by decide) rfl

end FH
