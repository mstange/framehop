import FH.World
import FH.RegOrder
/-!
# C15 — `MustNotAllocateDuringUnwind` never allocates and agrees with the default

**Partial by nature.** Whether Rust code calls the allocator is not a property of any
input/output model of it; that half is *measured*: the harness installs a counting global
allocator, arms it exactly around each `unwind_frame` / iterator `next` made with
`MustNotAllocateDuringUnwind`, demands zero events for every format (three DWARF
presentations incl. expression CFAs and (val-)expression register rules, compact unwind, PE
incl. chained infos, no data), names the allocating call site from a backtrace, and compares
every result with `MayAllocateDuringUnwind` (engine `alloc`).

What is logic, and proved here: the model has *one* semantics for both policies, and the
fixed-size storages framehop's own code uses in place of heap collections can never be the
reason for a different result:

* the chained `UNWIND_INFO`s of a function are kept in storage for 32; the plan is the
  state-independent error exactly when there are more, before anything is stored
  (`C15_pe_chain_fits_fixed_storage`);
* a sequence compressed into the pop rule has at most 8 registers - the capacity of the
  rule's register list (`C15_pop_rule_registers_fit`);
* rule-cache entries, the only thing the cache stores, are produced without consulting the
  policy (`C15_model_is_policy_free`).

gimli's own fixed-size storages (`StoreOnStack`: unwind context rows and expression stacks)
are third-party; the CFI written by the harness stays within them, and a difference would be
reported by the engine as `policies-disagree-*`.
-/
namespace FH

/-- The two allocation policies. -/
inductive Policy where
  | mayAllocate
  | mustNotAllocate
  deriving DecidableEq, Repr

/-- `Unwinder::unwind_frame` for a policy: the policy selects storage types only. -/
def unwindFrameP (_pol : Policy) (A : Arch) (N : Nat) (u : Unw) (c : Cache A.Rule)
    (addr : FrameAddr) (regs : A.Regs) (mem : Mem) : Cache A.Rule × Out A.Regs :=
  unwindFrame A N u c addr regs mem

/-- The model is policy free: both real policies are compared with this one function by the
correspondence engines (`scn` and `alloc` run both). -/
theorem C15_model_is_policy_free (A : Arch) (N : Nat) (u : Unw) (c : Cache A.Rule)
    (addr : FrameAddr) (regs : A.Regs) (mem : Mem) :
    unwindFrameP .mustNotAllocate A N u c addr regs mem =
      unwindFrameP .mayAllocate A N u c addr regs mem := rfl

/-- Storage for 32 chained unwind infos always suffices when operations are gathered: a
function with more is rejected with the state-independent error before that. -/
theorem C15_pe_chain_fits_fixed_storage (funcs : List PeFunc) (rel : Nat) (f : PeFunc)
    (hl : peLookup funcs rel = some f) (ops : List PeOp) (fr : Option Nat) (fo : Nat)
    (hp : pePlan funcs rel false = .interp fr fo ops) : f.infos.length ≤ 32 := by
  simp only [pePlan, hl] at hp
  split at hp
  · cases hp
  · simp only [Bool.false_eq_true, if_false] at hp
    split at hp
    · cases hp
    · rename_i h; omega

/-- The collected pops never exceed 8 registers. -/
theorem collectPops_length : ∀ (items : List OffsetOrPop) (acc regs : List Nat),
    acc.length ≤ 8 → collectPops items acc = some regs → regs.length ≤ 8
  | [], acc, regs, ha, h => by
    simp only [collectPops] at h
    injection h with h; subst h; simpa using ha
  | .pop r :: rest, acc, regs, ha, h => by
    simp only [collectPops] at h
    split at h
    · exact collectPops_length rest (r :: acc) regs (by simp; omega) h
    · cases h
  | .offsetBy8 _ :: _, _, _, _, h => by simp [collectPops] at h
  | .none :: _, _, _, _, h => by simp [collectPops] at h

/-- Every register list that is encoded into a pop rule has at most 8 entries. -/
theorem C15_pop_rule_registers_fit (regs : List Nat) (c e : Nat)
    (h : encodeRegs regs = some (c, e)) : regs.length ≤ 8 ∧ c = regs.length :=
  have ⟨hl, hc, _⟩ := encodeRegs_some h
  ⟨hl, hc⟩

end FH
