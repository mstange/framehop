import FH.ModuleLemmas
import FH.MissPath
/-!
# C13 — Return addresses are looked up at address−1, instruction pointers exactly
-/
namespace FH

theorem C13_lookup_address (a : Nat) :
    (FrameAddr.ip a).lookup = a ∧ (FrameAddr.ret a).lookup = a - 1 := ⟨rfl, rfl⟩

/-- Every lookup in `unwind_frame` — cache slot, module search, and (through the relative
address) the search inside the module's unwind data — uses the lookup address, never the raw
address: the outcome for a return address `a` is the outcome for lookup address `a - 1`
in caller-frame mode. -/
theorem C13_unwind_uses_lookup_address (A : Arch) (N : Nat) (u : Unw) (c : Cache A.Rule)
    (a b : Nat) (regs : A.Regs) (mem : Mem) (h : a - 1 = b - 1) :
    unwindFrame A N u c (.ret a) regs mem = unwindFrame A N u c (.ret b) regs mem := by
  unfold unwindFrame missPath
  simp only [FrameAddr.lookup, FrameAddr.isReturn, h]

/-- Adjacent modules `F = [x, b)` and `G = [b, y)`: the return address `b` (a call as the very
last instruction of `F`) resolves to `F`, the instruction pointer `b` resolves to `G`. -/
theorem C13_adjacent_modules (mods : List Module) (h : NonOverlap mods) (i j : Nat) (F G : Module)
    (hF : mods[i]? = some F) (hG : mods[j]? = some G) (hadj : F.stop = G.start)
    (hbF : F.baseAvma ≤ F.start) (hbG : G.baseAvma = G.start) (hsz : F.stop - F.baseAvma ≤ U32) :
    findModule mods (FrameAddr.ret G.start).lookup = some (i, G.start - 1 - F.baseAvma) ∧
    findModule mods (FrameAddr.ip G.start).lookup = some (j, 0) := by
  have hFne := h.2 F (List.mem_of_getElem? hF)
  have hGne := h.2 G (List.mem_of_getElem? hG)
  refine ⟨?_, ?_⟩
  · show findModule mods (G.start - 1) = _
    rw [findModule_complete mods h (G.start - 1) i F hF ⟨by omega, by omega⟩,
      if_neg (by omega), if_pos (by omega)]
  · show findModule mods G.start = _
    rw [findModule_complete mods h G.start j G hG ⟨by omega, by omega⟩, hbG,
      if_neg (Nat.lt_irrefl _), Nat.sub_self, if_pos (by decide)]

/-- Adjacent FDEs inside one module: the row for the lookup address `b - 1` comes from the
FDE ending at `b`, the row for `b` from the FDE starting at `b`. -/
theorem C13_adjacent_fdes (F G : Fde) (hadj : F.start + F.len = G.start) (hF : 0 < F.len)
    (hG : 0 < G.len) (hFe : F.evalFails = false) (hGe : G.evalFails = false) :
    F.rowFor (G.start - 1) = ((F.rows.filter fun p => p.1 ≤ G.start - 1 - F.start).getLast?).map (·.2) ∧
    G.rowFor G.start = ((G.rows.filter fun p => p.1 ≤ 0).getLast?).map (·.2) ∧
    G.rowFor (G.start - 1) = none ∧ F.rowFor G.start = none := by
  unfold Fde.rowFor
  have h1 : F.start ≤ G.start - 1 ∧ G.start - 1 < F.start + F.len := by omega
  have h2 : G.start ≤ G.start ∧ G.start < G.start + G.len := by omega
  have h3 : ¬ (G.start ≤ G.start - 1 ∧ G.start - 1 < G.start + G.len) := by omega
  have h4 : ¬ (F.start ≤ G.start ∧ G.start < F.start + F.len) := by omega
  simp [hFe, hGe, h1, h2, h3, h4]

/-- Row boundaries inside one FDE: if the rows change at offset `k` (a call as the last
instruction before a block with another CFA - a call to a noreturn function), the return
address `start + k` is unwound with the row in force *before* `k`, the instruction pointer
`start + k` with the row that starts there. -/
theorem C13_row_boundary (fde : Fde) (r1 r2 : Row) (k : Nat) (hk : 0 < k) (hlen : k < fde.len)
    (he : fde.evalFails = false) (hrows : fde.rows = [(0, r1), (k, r2)]) :
    fde.rowFor ((FrameAddr.ret (fde.start + k)).lookup) = some r1 ∧
    fde.rowFor ((FrameAddr.ip (fde.start + k)).lookup) = some r2 := by
  unfold Fde.rowFor FrameAddr.lookup
  simp only [he, hrows]
  have h1 : fde.start ≤ fde.start + k - 1 ∧ fde.start + k - 1 < fde.start + fde.len := by omega
  have h2 : fde.start ≤ fde.start + k ∧ fde.start + k < fde.start + fde.len := by omega
  have h3 : ¬ (k ≤ fde.start + k - 1 - fde.start) := by omega
  have h4 : k ≤ fde.start + k - fde.start := by omega
  simp [h1, h2, h3, h4, List.filter]

/-- Through the whole call: a return address is unwound with the plan for the relative
address of `address - 1`; the plan never sees the raw return address. -/
theorem C13_plan_sees_lookup_address (A : Arch) (u : Unw) (a : Nat) (regs : A.Regs) (mem : Mem)
    (i rel : Nat) (m : Module) (hf : findModule u.mods (a - 1) = some (i, rel))
    (hm : u.mods[i]? = some m) (r : A.Rule) (hp : plan A m rel false = .exec r) :
    missPath A u (.ret a) regs mem = (some r, A.exec r false regs mem) :=
  missPath_of_plan (addr := .ret a) hf hm hp regs mem

end FH
