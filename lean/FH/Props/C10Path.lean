import FH.Props.C10
import FH.NoPanic
import FH.Props.C03
/-!
# C10 — progress of a whole `unwind_frame` call (miss path), whatever produced the step

The step theorems of `FH/Props/C10.lean` speak about one mechanism each (a cached rule, the
uncacheable DWARF path). Here they are composed through `missPath` - module lookup, format
dispatch, rule or generic evaluation or PE, error -> frame pointer fallback - for arbitrary
module data: on aarch64 *every* successful caller-frame call strictly increases sp.
-/
namespace FH

/-- **aarch64, any module data, any path**: if `unwind_frame` for a return address (a caller
frame) misses the cache and reports a frame, the stack pointer has strictly increased. -/
theorem C10_a64_unwind_frame_caller_step_advances (u : Unw) (hu : u.WF) (addr : FrameAddr)
    (regs regs' : RegsA64) (mem : Mem) (ra : Nat) (hret : addr.isReturn = true)
    (h : (missPath archA64 u addr regs mem).2 = .ret (.frame ra) regs') : regs.sp < regs'.sp := by
  have hm := (missPath_out (plansAll_a64 hu) addr regs mem).frame h
  simp only [hret, Bool.not_true] at hm
  rcases hm with ⟨r, hw, he⟩ | ⟨hne, ⟨row, hg⟩ | ⟨p, hg⟩⟩
  · exact (execA64_frame he).caller_advance rfl
  · exact (C10_a64_generic_caller_step hg).resolve_left fun e => hne e.1
  · cases hg

/-- `execX64_frame` for the callers that carry `Safe`: the fields of the rule play no role for
progress (a panic is not a frame). -/
theorem execX64_frame_safe {rule : RuleX64} {first : Bool} {regs : RegsX64} {mem : Mem} {ra : Nat}
    {regs' : RegsX64} (hr : rule.Safe)
    (h : execX64 rule first regs mem = .ret (.frame ra) regs') : FrameX64 regs regs' ra mem :=
  execX64_frame h

/-- Interpreted PE steps are committed only if rsp advanced (`peCommit`). -/
theorem peRun_caller_advances {p : PePlan} {regs g : RegsX64} {mem : Mem} {ra : Nat}
    (h : peRun p false regs mem = .ok ra g) : regs.sp < g.sp := by
  cases p with
  | epilog fr insns => exact (C03_interpreted_step_commits_progress false regs g ra _ h).2 rfl
  | interp fr fo ops => exact (C03_interpreted_step_commits_progress false regs g ra _ h).2 rfl
  | exec r => cases h
  | staticErr => cases h

/-- **x86-64, any module data, any path**: if `unwind_frame` for a return address misses the
cache and reports a frame, the stack pointer has not decreased, and the step has not left both
the stack pointer and the code address unchanged (rule steps: `Advances`; generic DWARF and
interpreted PE steps: strictly increasing sp). -/
theorem C10_x64_unwind_frame_caller_step_advances (u : Unw) (hu : u.WF) (addr : FrameAddr)
    (regs regs' : RegsX64) (mem : Mem) (ra : Nat) (hret : addr.isReturn = true)
    (h : (missPath archX64 u addr regs mem).2 = .ret (.frame ra) regs') :
    regs.sp ≤ regs'.sp ∧ ¬(regs'.sp = regs.sp ∧ ra = regs.ip) := by
  have hm := (missPath_out (plansAll_x64 hu) addr regs mem).frame h
  simp only [hret, Bool.not_true] at hm
  have lt : regs.sp < regs'.sp → regs.sp ≤ regs'.sp ∧ ¬(regs'.sp = regs.sp ∧ ra = regs.ip) :=
    fun h => ⟨by omega, by omega⟩
  rcases hm with ⟨r, hs, he⟩ | ⟨_, ⟨row, hg⟩ | ⟨p, hg⟩⟩
  · exact ⟨(execX64_frame_safe hs he).sp_mono, (execX64_frame_safe hs he).advance⟩
  · exact lt (C10_x64_generic_caller_step hg).1
  · exact lt (peRun_caller_advances hg)

/-- The same in the form the walk-level theorems consume (`Advances`): sp does not decrease and,
if it stays, the new address was read from `[sp - 8]` and differs from the old one. Hence
`C10_walk_terminates` and the no-repeat argument (`walk_no_repeat`) apply to walks made of
arbitrary cache-missing `unwind_frame` calls on arbitrary modules, not only to rule steps. -/
theorem C10_x64_unwind_frame_caller_step_Advances (u : Unw) (hu : u.WF) (addr : FrameAddr)
    (regs regs' : RegsX64) (mem : Mem) (ra : Nat) (hret : addr.isReturn = true)
    (h : (missPath archX64 u addr regs mem).2 = .ret (.frame ra) regs') :
    Advances mem ⟨regs.ip, regs.sp⟩ ⟨regs'.ip, regs'.sp⟩ := by
  have hm := (missPath_out (plansAll_x64 hu) addr regs mem).frame h
  simp only [hret, Bool.not_true] at hm
  rcases hm with ⟨r, hs, he⟩ | ⟨_, ⟨row, hg⟩ | ⟨p, hg⟩⟩
  · exact advances_of_frameX64 (execX64_frame_safe hs he)
  · exact advances_of_lt (C10_x64_generic_caller_step hg).1
  · exact advances_of_lt (peRun_caller_advances hg)

end FH
