import FH.Props.C07Nested
import FH.Hist
/-!
# C04 — addresses given to no module or to a module without unwind data, for any module set

The reference semantics of the harness oracle `no-unwind-data-not-the-fallback-rule`: in a
module list sorted by start (nested and overlapping ranges allowed) the module with the greatest
start at or below the lookup address decides; if the address lies at or beyond its end, or if
that module carries no unwind data, the whole miss path of `unwind_frame` is the fallback rule -
cached, executed on the call's registers - whatever enclosing module would contain the address.
-/
namespace FH

theorem C04_greatest_start_module_without_data_uses_fallback (A : Arch) (u : Unw)
    (hs : SortedByStart u.mods) (addr : FrameAddr) (j : Nat) (m : Module)
    (hm : u.mods[j]? = some m) (hle : m.start ≤ addr.lookup)
    (hg : ∀ k x, u.mods[k]? = some x → x.start ≤ addr.lookup → k ≤ j)
    (hd : m.stop ≤ addr.lookup ∨ m.data = .none) (regs : A.Regs) (mem : Mem) :
    missPath A u addr regs mem =
      (some A.fallback, A.exec A.fallback (!addr.isReturn) regs mem) := by
  -- the plan is a static error whether the address is given to no module or to `m`
  suffices h : planAt A u.mods addr.lookup (!addr.isReturn) = .staticErr by rw [missPath_eq, h]; rfl
  unfold planAt findModule
  rw [C07_greatest_start_decides u.mods hs addr.lookup j m hm hle hg]
  by_cases hstop : m.stop ≤ addr.lookup
  · simp only [if_pos hstop]
  · simp only [if_neg hstop]
    by_cases h1 : addr.lookup < m.baseAvma
    · simp only [if_pos h1]
    · by_cases h2 : addr.lookup - m.baseAvma < U32
      · simp only [if_neg h1, if_pos h2, hm, plan, hd.resolve_left hstop]
      · simp only [if_neg h1, if_neg h2]

-- Non-vacuity: the inner mapping of the example in `C07Nested` has no unwind data.
example : (⟨0x3000, 0x4000, 0x3000, 0, .none⟩ : Module).data = .none := rfl

end FH
