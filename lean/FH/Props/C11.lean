import FH.RuleLemmas
import FH.Trunc
import FH.World
/-!
# C11 — End of stack is told apart from truncation; null is never a frame
(rule-level part; the walk-level truncation theorem is in `C11_truncation_prefix` below)
-/
namespace FH

/-- A rule-based step never reports a null address as a frame. -/
theorem C11_x64_never_null_frame {rule : RuleX64} {first : Bool} {regs regs' : RegsX64}
    {mem : Mem} {ra : Nat} (hr : rule.WF)
    (h : execX64 rule first regs mem = .ret (.frame ra) regs') : ra ≠ 0 :=
  (execX64_frame h).ra_ne

theorem C11_a64_never_null_frame {rule : RuleA64} {first : Bool} {regs regs' : RegsA64}
    {mem : Mem} {ra : Nat} (hr : rule.WF)
    (h : execA64 rule first regs mem = .ret (.frame ra) regs') : ra ≠ 0 :=
  (execA64_frame h).ra_ne

/-- **Ok(None) only at a root marker (x86-64).** If a rule step completes the walk, then the
rule is the "return address undefined" rule, or the step followed a null frame pointer, or a null
return address was read from the stack. -/
theorem C11_x64_done_only_at_root_marker {rule : RuleX64} {first : Bool} {regs regs' : RegsX64}
    {mem : Mem} (h : execX64 rule first regs mem = .ret .done regs') :
    rule = .endOfStack ∨ (usesBpX64 rule first = true ∧ regs.bp = 0) ∨ ∃ a, mem a = some 0 := by
  rcases execX64_out rule first regs mem with
    ⟨k, _, hk, e⟩ | ⟨_, _, _, e⟩ | ⟨a, _, ha, _⟩ | ⟨_, _, _, _, _, _, _, _, _, e⟩
  · rw [e] at h
    cases k <;> cases h
    exact hk.elim .inl fun hu => .inr (.inl hu)
  · rw [e] at h; cases h
  · exact .inr (.inr ⟨a, ha⟩)
  · rw [e] at h; cases h

/-- **Ok(None) only at a root marker (aarch64)**: the "stack ends here" rule in a caller frame
(return address undefined), a null saved frame pointer in the slot the rule reads, or a return
address (in `lr` or loaded from the stack) that is null once stripped. -/
theorem C11_a64_done_only_at_root_marker {rule : RuleA64} {first : Bool} {regs regs' : RegsA64}
    {mem : Mem} (h : execA64 rule first regs mem = .ret .done regs') :
    ((∃ k, rule = .offsetSpIfFirstFrameOtherwiseStackEndsHere k) ∧ first = false) ∨
      (∃ a, fpSlotA64 rule first regs = some a ∧ mem a = some 0) ∨ NullRaA64 regs mem := by
  rcases execA64_out rule first regs mem with
    ⟨k, hk, e⟩ | ⟨_, _, e⟩ | ⟨hd, _⟩ | ⟨_, _, _, _, _, _, e⟩
  · rw [e] at h
    cases k <;> cases h
    exact .inl hk
  · rw [e] at h; cases h
  · exact .inr (hd.imp (fun ⟨a, _, _, hp, hm⟩ => ⟨a, hp.1, hm⟩) id)
  · rw [e] at h; cases h

/-- Conversely the "return address undefined" rules complete the walk. -/
theorem C11_undefined_ra_rules_complete (regsX : RegsX64) (regsA : RegsA64) (mem : Mem) (first : Bool)
    (k : Nat) :
    execX64 .endOfStack first regsX mem = .ret .done regsX ∧
      execA64 (.offsetSpIfFirstFrameOtherwiseStackEndsHere k) false regsA mem = .ret .done regsA :=
  ⟨rfl, rfl⟩

/-- If a rule-based step ends with `CouldNotReadStack a`, then `a` is an address the stack
reader refused. -/
theorem C11_x64_error_names_unreadable {rule : RuleX64} {first : Bool} {regs regs' : RegsX64}
    {mem : Mem} {a : Nat}
    (h : execX64 rule first regs mem = .ret (.err (.couldNotReadStack a)) regs') :
    mem a = none := by
  rcases execX64_out rule first regs mem with
    ⟨k, _, _, e⟩ | ⟨_, _, he, e⟩ | ⟨_, _, _, e⟩ | ⟨_, _, _, _, _, _, _, _, _, e⟩ <;> rw [e] at h
  · cases k <;> cases h
  · cases h
    rcases he with he | he | ⟨b, he, hb⟩
    · cases he
    · cases he
    · cases he; exact hb
  · cases h
  · cases h

theorem C11_a64_error_names_unreadable {rule : RuleA64} {first : Bool} {regs regs' : RegsA64}
    {mem : Mem} {a : Nat}
    (h : execA64 rule first regs mem = .ret (.err (.couldNotReadStack a)) regs') :
    mem a = none := by
  rcases execA64_out rule first regs mem with
    ⟨k, _, e⟩ | ⟨_, he, e⟩ | ⟨_, e⟩ | ⟨_, _, _, _, _, _, e⟩ <;> rw [e] at h
  · cases k <;> cases h
  · cases h
    rcases he with he | he | ⟨b, he, hb⟩
    · cases he
    · cases he
    · cases he; exact hb
  · cases h
  · cases h

/-- Truncation, one step: with reads at or above `c` failing, a rule-based step either behaves
as before or reports `CouldNotReadStack(a)` for an unreadable `a ≥ c`. -/
theorem C11_x64_step_truncation (c : Nat) (rule : RuleX64) (first : Bool) (regs : RegsX64)
    (mem : Mem) (hr : rule.WF) :
    TruncOK c (execX64 rule first regs mem) (execX64 rule first regs (cutMem c mem)) := by
  rw [execX64_eq_run, execX64_eq_run]
  refine PlanX64.run_trunc c mem _ _ _ ((planX64_all rule first regs).imp fun q hq => ?_)
  cases q with
  | finTol a n => exact hq hr
  | _ => trivial

theorem C11_a64_step_truncation (c : Nat) (rule : RuleA64) (first : Bool) (regs : RegsA64)
    (mem : Mem) :
    TruncOK c (execA64 rule first regs mem) (execA64 rule first regs (cutMem c mem)) := by
  rw [execA64_eq_run, execA64_eq_run]
  exact PlanA64.run_trunc c mem _ _

/-- Truncation, whole walk: for any walk made of truncation-safe steps (any assignment of rules
to frames, both architectures), cutting the readable stack at `c` yields the same walk or a
prefix of its frames followed by `Err(CouldNotReadStack(a))` with `a ≥ c`. -/
theorem C11_truncation_prefix {S : Type} (step : Mem → S → Out S) (mem : Mem) (c : Nat)
    (hstep : ∀ s, TruncOK c (step mem s) (step (cutMem c mem) s)) (n : Nat) (s : S) :
    walkWith step (cutMem c mem) n s = walkWith step mem n s ∨
      ∃ k a, a ≥ c ∧
        walkWith step (cutMem c mem) n s =
          (walkWith step mem n s).take k ++ [.err (.couldNotReadStack a)] ∧
        ∀ r ∈ (walkWith step mem n s).take k, IsFrame r :=
  walk_trunc step mem c hstep n s

/-- Instance: an x86-64 walk whose frames are unwound by arbitrary cached rules. -/
theorem C11_x64_rule_walk_truncation (rules : Nat → RuleX64) (hr : ∀ i, (rules i).WF) (mem : Mem)
    (c n : Nat) (regs : RegsX64) :
    let step : Mem → (Nat × RegsX64) → Out (Nat × RegsX64) := fun m s =>
      match execX64 (rules s.1) (s.1 == 0) s.2 m with
      | .ret r g => .ret r (s.1 + 1, g)
      | .panic p => .panic p
    walkWith step (cutMem c mem) n (0, regs) = walkWith step mem n (0, regs) ∨
      ∃ k a, a ≥ c ∧
        walkWith step (cutMem c mem) n (0, regs) =
          (walkWith step mem n (0, regs)).take k ++ [.err (.couldNotReadStack a)] ∧
        ∀ r ∈ (walkWith step mem n (0, regs)).take k, IsFrame r := by
  intro step
  apply walk_trunc
  intro s
  rcases C11_x64_step_truncation c (rules s.1) (s.1 == 0) s.2 mem (hr s.1) with h | ⟨a, g, ha, h⟩
  · left; simp only [step, h]
  · right; exact ⟨a, (s.1 + 1, g), ha, by simp only [step, h]⟩

/-- Instance: an aarch64 walk whose frames are unwound by arbitrary cached rules. -/
theorem C11_a64_rule_walk_truncation (rules : Nat → RuleA64) (mem : Mem) (c n : Nat)
    (regs : RegsA64) :
    let step : Mem → (Nat × RegsA64) → Out (Nat × RegsA64) := fun m s =>
      match execA64 (rules s.1) (s.1 == 0) s.2 m with
      | .ret r g => .ret r (s.1 + 1, g)
      | .panic p => .panic p
    walkWith step (cutMem c mem) n (0, regs) = walkWith step mem n (0, regs) ∨
      ∃ k a, a ≥ c ∧
        walkWith step (cutMem c mem) n (0, regs) =
          (walkWith step mem n (0, regs)).take k ++ [.err (.couldNotReadStack a)] ∧
        ∀ r ∈ (walkWith step mem n (0, regs)).take k, IsFrame r := by
  intro step
  apply walk_trunc
  intro s
  rcases C11_a64_step_truncation c (rules s.1) (s.1 == 0) s.2 mem with h | ⟨a, g, ha, h⟩
  · left; simp only [step, h]
  · right; exact ⟨a, (s.1 + 1, g), ha, by simp only [step, h]⟩

/-- On the uncacheable paths a null return address is end of stack too (`with_cache`). -/
theorem C11_uncacheable_null_is_end_of_stack : resOfRa 0 = .done ∧ ∀ ra, ra ≠ 0 → resOfRa ra = .frame ra := by
  refine ⟨rfl, fun ra h => by simp [resOfRa, h]⟩

end FH
