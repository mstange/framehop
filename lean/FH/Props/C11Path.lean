import FH.Props.C11
import FH.Props.C10Path
/-!
# C11 — a whole `unwind_frame` call (miss path) never reports a null address as a frame
-/
namespace FH

/-- x86-64: any module data, any path, first frame or caller frame. -/
theorem C11_x64_unwind_frame_never_null_frame (u : Unw) (hu : u.WF) (addr : FrameAddr)
    (regs regs' : RegsX64) (mem : Mem) (ra : Nat)
    (h : (missPath archX64 u addr regs mem).2 = .ret (.frame ra) regs') : ra ≠ 0 := by
  rcases (missPath_out (plansAll_x64 hu) addr regs mem).frame h with ⟨r, hs, he⟩ | ⟨hne, _⟩
  · exact (execX64_frame_safe hs he).ra_ne
  · exact hne

/-- aarch64: any module data, any path. -/
theorem C11_a64_unwind_frame_never_null_frame (u : Unw) (hu : u.WF) (addr : FrameAddr)
    (regs regs' : RegsA64) (mem : Mem) (ra : Nat)
    (h : (missPath archA64 u addr regs mem).2 = .ret (.frame ra) regs') : ra ≠ 0 := by
  rcases (missPath_out (plansAll_a64 hu) addr regs mem).frame h with ⟨r, hw, he⟩ | ⟨hne, _⟩
  · exact (execA64_frame he).ra_ne
  · exact hne

end FH
