import FH.PeLemmas
import FH.PeBody
import FH.World
import FH.RegOrder
/-!
# C03 — PE x64 unwinding is exact in prolog, body, epilog and matches the MS procedure

The model starts from pe-unwind-info's parsed values. "The documented Microsoft unwind
procedure" is represented twice: in Lean by `popSpec` for push/alloc prologs (the shapes that
are compressed into cacheable rules) and by the transcription `interpOps`/`interpEpilog` of
the general procedure; on the implementation side by pe-unwind-info's own reference
implementation `FunctionTableEntries::unwind_frame`, against which the `pe` engine compares
every step on arbitrary registers and stacks.
-/
namespace FH

/-- Following the PE convention, an address without a function table entry is a frameless
leaf: the return address is on top of the stack (first frame or not). -/
theorem C03_no_table_entry_is_leaf (funcs : List PeFunc) (rel : Nat) (first : Bool)
    (h : peLookup funcs rel = none) : pePlan funcs rel first = .exec .justReturn := by
  simp [pePlan, h]

/-- PE on aarch64 is unsupported: the frame falls back to the frame pointer rule. -/
theorem C03_pe_on_aarch64_falls_back (m : Module) (funcs : List PeFunc) (rel : Nat) (first : Bool)
    (h : m.data = .pe funcs) : plan archA64 m rel first = .staticErr := by
  simp [plan, h, archA64]

/-- **The register-order encoding round-trips**: for every register sequence that
`register_ordering::encode` accepts (any length, any registers), `decode` of its result is
that sequence. Proved from the mixed-radix structure of the encoding (`FH/RegOrder.lean`), not
by enumeration. -/
theorem C03_register_order_roundtrip (regs : List Nat) (c e : Nat)
    (h : encodeRegs regs = some (c, e)) : decodeRegs c e = regs := by
  obtain ⟨hl, rfl, he⟩ := encodeRegs_some h
  simpa [decodeRegs] using encodeLoop_roundtrip regs 0 8 encodeRegisters e rfl (by decide) hl he

/-- **Compression is lossless.** Executing the cacheable rule `OffsetSpAndPopRegisters`
performs exactly the documented procedure for a push/alloc prolog (release the allocation,
pop the saved registers in order, pop the return address), for the register list that was
encoded into the rule (`henc`; the decoder recovers it by `C03_register_order_roundtrip`). -/
theorem C03_pop_rule_is_the_procedure (k count enc : Nat) (regsList : List Nat) (first : Bool)
    (regs : RegsX64) (mem : Mem) (ra : Nat) (r' : Nat → Nat) (hk : k < U16)
    (henc : encodeRegs regsList = some (count, enc)) (hn : RSP ∉ regsList)
    (hs : popSpec mem k regsList regs.r = some (ra, r')) (hlt : r' RSP < U64) (hra : ra ≠ 0) :
    execX64 (.offsetSpAndPopRegisters k count enc) first regs mem =
      .ret (.frame ra) { ip := ra, r := setReg r' RBP (r' RBP) } := by
  obtain ⟨r2, h1, h2, rfl⟩ := popLoop_of_spec mem _ _ regs.r ra r'
    (by rw [← popSpecLoop_sp mem _ _ _ _ _ hs]; exact hlt) hs
  rw [setReg_same] at hlt
  have e : regs.r RSP = regs.sp := rfl
  rw [e] at h1 h2 hlt
  have hdec := C03_register_order_roundtrip regsList count enc henc
  rw [execX64_popRegisters (by omega) (by rwa [hdec, Nat.mul_comm]) (by omega)]
  exact finishX64_ok (by omega) (by simpa using h2) hra (by omega)

/-- The operation interpreter performs the same procedure on the same prolog, so whether a
sequence is compressed or interpreted cannot matter. -/
theorem C03_interpreter_is_the_procedure (mem : Mem) (pes : List Nat) (r : Nat → Nat) (ra : Nat)
    (r' : Nat → Nat) (hn : RSP ∉ pes.map peReg) (hlt : r RSP + 8 * pes.length + 8 < U64)
    (hs : popSpecLoop mem (pes.map peReg) (r RSP) r = some (ra, r')) :
    interpOps none 0 mem (pes.map .popNonVolatile) r = .ok ra r' := by
  have := interpOps_pops mem pes _ _ ra r' hlt hs
  rwa [setReg_self] at this

/-- **Which codes apply inside the prolog.** On a code array sorted by descending prolog offset
(as UNWIND_INFO stores it), the operations framehop gathers for a pc at prolog offset `o` are
exactly those of the instructions that have completed (`offset ≤ o`). -/
theorem C03_prolog_offset_selects_executed_codes (codes : List (Nat × PeOp)) (o : Nat)
    (hsorted : codes.Pairwise (fun a b => a.1 ≥ b.1)) :
    gatherOps [⟨codes⟩] o = (codes.filter (fun p => p.1 ≤ o)).map (·.2) := by
  simp [gatherOps, dropWhile_gt_eq_filter_le o codes hsorted]

/-- **Exact at every instruction boundary of the prolog.** The thread has executed some of the
pushes (`pops`), possibly the allocation, possibly the frame-register setup, some of the movs
(`saves`); the operations gathered for that point (previous theorem) then unwind exactly as the
layout says: restore what was saved, undo the allocation if it happened, pop what was pushed. The
body is the special case where everything has been executed (`C03_body_unwind_is_the_procedure`). -/
theorem C03_prolog_prefix_unwind_is_the_procedure (fr : Option Nat) (fo A n : Nat) (mem : Mem)
    (saves : List (Nat × Nat)) (pops : List Nat) (allocDone setfpDone : Bool) (r : Nat → Nat)
    (ra : Nat) (r' : Nat → Nat)
    (hbase : if setfpDone then ∃ f, fr = some f ∧ r (peReg f) = A + fo
      else r RSP = (if allocDone then A else A + n))
    (horder : (setfpDone = true → allocDone = true) ∧
      (saves ≠ [] → allocDone = true ∧ (setfpDone = true ∨ fr = none)))
    (hs : ∀ p ∈ saves, peReg p.1 ≠ RSP ∧ (∀ f, fr = some f → peReg p.1 ≠ peReg f) ∧
      mem (A + p.2) ≠ none ∧ A + p.2 < U64)
    (hn : RSP ∉ pops.map peReg) (hlt : A + n + 8 * pops.length + 8 < U64)
    (hspec : popSpecLoop mem (pops.map peReg) (A + n)
      (setReg (restoreSaves mem A saves r) RSP (A + n)) = some (ra, r')) :
    interpOps fr fo mem
      (saves.map (fun p => .readNonVolatile p.1 p.2) ++
        ((if setfpDone then [.restoreSPFromFP] else []) ++ ((if allocDone then [.unStackAlloc n] else []) ++
          pops.map .popNonVolatile))) r = .ok ra r' := by
  -- the saves (if any) see the frame base
  have hb : saves ≠ [] → BaseIs fr fo A r := by
    intro hne
    obtain ⟨ha, hf⟩ := horder.2 hne
    rcases hf with hf | hf
    · simp only [hf, if_true] at hbase
      obtain ⟨f, e1, e2⟩ := hbase
      subst e1; exact e2
    · subst hf
      cases setfpDone with
      | true => simp only [if_true] at hbase; obtain ⟨f, e1, _⟩ := hbase; cases e1
      | false => simp only [Bool.false_eq_true, if_false, ha, if_true] at hbase; exact hbase
  have e1 : interpOps fr fo mem
      (saves.map (fun p => .readNonVolatile p.1 p.2) ++
        ((if setfpDone then [.restoreSPFromFP] else []) ++ ((if allocDone then [.unStackAlloc n] else []) ++
          pops.map .popNonVolatile))) r =
      interpOps fr fo mem ((if setfpDone then [.restoreSPFromFP] else []) ++
        ((if allocDone then [.unStackAlloc n] else []) ++ pops.map .popNonVolatile))
        (restoreSaves mem A saves r) ∧
      (restoreSaves mem A saves r) RSP = r RSP ∧
      (∀ f, fr = some f → restoreSaves mem A saves r (peReg f) = r (peReg f)) := by
    cases saves with
    | nil => exact ⟨rfl, rfl, fun _ _ => rfl⟩
    | cons p more =>
      have hbb := hb (by simp)
      obtain ⟨a, b, c⟩ := interpOps_saves fr fo A mem
        ((if setfpDone then [.restoreSPFromFP] else []) ++
          ((if allocDone then [.unStackAlloc n] else []) ++ pops.map .popNonVolatile)) (p :: more) r hbb hs
      refine ⟨a, c, ?_⟩
      intro f hf
      subst hf
      simp only [BaseIs] at hbb b
      rw [b, hbb]
  obtain ⟨e1a, e1b, e1c⟩ := e1
  rw [e1a]
  generalize restoreSaves mem A saves r = r1 at e1b e1c hspec ⊢
  -- UWOP_SET_FPREG
  have e2 : interpOps fr fo mem ((if setfpDone then [.restoreSPFromFP] else []) ++
        ((if allocDone then [.unStackAlloc n] else []) ++ pops.map .popNonVolatile)) r1 =
      interpOps fr fo mem ((if allocDone then [.unStackAlloc n] else []) ++ pops.map .popNonVolatile)
        (setReg r1 RSP (if allocDone then A else A + n)) := by
    cases setfpDone with
    | false =>
      simp only [Bool.false_eq_true, if_false] at hbase
      rw [← hbase, ← e1b, setReg_self]
      rfl
    | true =>
      simp only [if_true] at hbase
      obtain ⟨f, ef, ebase⟩ := hbase
      subst ef
      have hal := horder.1 rfl
      have hv : r1 (peReg f) = A + fo := by rw [e1c f rfl]; exact ebase
      have c1 : fo ≤ r1 (peReg f) := by omega
      have c2 : r1 (peReg f) - fo = A := by omega
      simp only [if_true, List.cons_append, List.nil_append, interpOps, resolveOp, c1, c2, hal]
  rw [e2]
  -- the allocation
  have e3 : interpOps fr fo mem ((if allocDone then [.unStackAlloc n] else []) ++ pops.map .popNonVolatile)
        (setReg r1 RSP (if allocDone then A else A + n)) =
      interpOps fr fo mem (pops.map .popNonVolatile) (setReg r1 RSP (A + n)) := by
    cases allocDone with
    | false => rfl
    | true =>
      have hA : A + n < U64 := by omega
      simp only [if_true, List.cons_append, List.nil_append, interpOps, resolveOp, setReg_same, hA,
        setReg_overwrite]
  rw [e3, interpOps_pops_frameless, ← setReg_overwrite r1 RSP (A + n) (A + n)]
  exact interpOps_pops mem pops _ _ ra r' hlt hspec

/-- **Exact in the body, for the standard prolog with every kind of unwind code.** A frame as
the Microsoft x64 documentation lays it out for the prolog
`push r…; sub rsp, n; lea fr, [rsp + fo]; mov [rsp + off], r…`: `A` is the stack pointer after the
allocation, mov-saved registers at `A + off`, above the allocation the pushed registers, then the
return address. Interpreting the function's unwind codes (`UWOP_SAVE_NONVOL…`, `UWOP_SET_FPREG`,
`UWOP_ALLOC_*`, `UWOP_PUSH_NONVOL…`, in array order) from *any* register values in the body -
with a frame register `rsp` may be anything: dynamic allocations - restores the mov-saved
registers from their slots, re-establishes `rsp = A + n` and then performs exactly the documented
pop procedure `popSpecLoop` (registers, return address, `rsp` above it). -/
theorem C03_body_unwind_is_the_procedure (fr : Option Nat) (fo A n : Nat) (mem : Mem)
    (saves : List (Nat × Nat)) (pops : List Nat) (r : Nat → Nat) (ra : Nat) (r' : Nat → Nat)
    (hb : BaseIs fr fo A r)
    (hs : ∀ p ∈ saves, peReg p.1 ≠ RSP ∧ (∀ f, fr = some f → peReg p.1 ≠ peReg f) ∧
      mem (A + p.2) ≠ none ∧ A + p.2 < U64)
    (hn : RSP ∉ pops.map peReg) (hlt : A + n + 8 * pops.length + 8 < U64)
    (hspec : popSpecLoop mem (pops.map peReg) (A + n)
      (setReg (restoreSaves mem A saves r) RSP (A + n)) = some (ra, r')) :
    interpOps fr fo mem
      (saves.map (fun p => .readNonVolatile p.1 p.2) ++
        ((if fr.isSome then [.restoreSPFromFP] else []) ++ ([.unStackAlloc n] ++
          pops.map .popNonVolatile))) r = .ok ra r' := by
  -- the prolog prefix with everything executed
  have := C03_prolog_prefix_unwind_is_the_procedure fr fo A n mem saves pops true fr.isSome r ra r'
    (by cases fr <;> simpa [BaseIs] using hb) ⟨fun _ => rfl, fun _ => ⟨rfl, by cases fr <;> simp⟩⟩
    hs hn hlt hspec
  simpa using this

/-- Non-vacuity: `push rbx; push rbp; sub rsp, 0x40; lea rbp, [rsp+0x20]; mov [rsp+0x30], rsi`
with the thread in the body after a dynamic allocation of 0x100 bytes (rsp no longer at the frame
base). -/
example :
    let mem : Mem := fun a => if a = 0x1030 then some 0x5151 else if a = 0x1040 then some 0xb9
      else if a = 0x1048 then some 0xbb else if a = 0x1050 then some 0x401234 else none
    let r : Nat → Nat := fun i => if i = RSP then 0xf00 else if i = RBP then 0x1020 else 7
    interpOps (some 5) 0x20 mem
      ([.readNonVolatile 6 0x30] ++ ([.restoreSPFromFP] ++ ([.unStackAlloc 0x40] ++
        [.popNonVolatile 5, .popNonVolatile 3]))) r =
      .ok 0x401234 (setReg (setReg (setReg (setReg r (peReg 6) 0x5151) (peReg 5) 0xb9) (peReg 3) 0xbb) RSP 0x1058) := by
  intro mem r
  have h := C03_body_unwind_is_the_procedure (some 5) 0x20 0x1000 0x40 mem [(6, 0x30)] [5, 3] r
    0x401234 (setReg (setReg (setReg (setReg r (peReg 6) 0x5151) (peReg 5) 0xb9) (peReg 3) 0xbb) RSP 0x1058)
    (by simp [BaseIs, peReg, r, RBP, RSP])
    (by intro p hp; simp at hp; subst hp; simp [peReg, RSP, mem, U64])
    (by simp [peReg, RSP]) (by simp [U64])
    (by
      simp only [popSpecLoop, List.map, restoreSaves, mem, peReg]
      simp
      funext j
      simp only [setReg, RSP]
      by_cases h7 : j = 7 <;> by_cases h6 : j = 6 <;> by_cases h3 : j = 3 <;> by_cases h4 : j = 4 <;> simp [*])
  simpa using h


/-! ## Whole walks over PE frames -/

/-- One PE frame of a call chain: how far its function got (all of the prolog for caller
frames and for a thread stopped in the body; a prefix for a thread stopped inside the prolog)
and where its frame lies. -/
structure PeFrame where
  fr : Option Nat
  fo : Nat
  A : Nat
  n : Nat
  saves : List (Nat × Nat)
  pops : List Nat
  allocDone : Bool
  setfpDone : Bool

def PeFrame.ops (f : PeFrame) : List PeOp :=
  f.saves.map (fun p => .readNonVolatile p.1 p.2) ++
    ((if f.setfpDone then [.restoreSPFromFP] else []) ++ ((if f.allocDone then [.unStackAlloc f.n] else []) ++
      f.pops.map .popNonVolatile))

/-- The frame is laid out as documented and the registers are inside it. -/
def PeFrame.LaidOut (f : PeFrame) (mem : Mem) (r : Nat → Nat) : Prop :=
  (if f.setfpDone then ∃ g, f.fr = some g ∧ r (peReg g) = f.A + f.fo
    else r RSP = (if f.allocDone then f.A else f.A + f.n)) ∧
  ((f.setfpDone = true → f.allocDone = true) ∧
    (f.saves ≠ [] → f.allocDone = true ∧ (f.setfpDone = true ∨ f.fr = none))) ∧
  (∀ p ∈ f.saves, peReg p.1 ≠ RSP ∧ (∀ g, f.fr = some g → peReg p.1 ≠ peReg g) ∧
    mem (f.A + p.2) ≠ none ∧ f.A + p.2 < U64) ∧
  RSP ∉ f.pops.map peReg ∧ f.A + f.n + 8 * f.pops.length + 8 < U64 ∧
  r RSP ≤ f.A + f.n + 8 * f.pops.length

/-- A true call chain of PE frames: each frame's documented layout yields (by the documented pop
procedure) the return address and the registers of the next frame; the root's return address is
null. -/
inductive PeChain (mem : Mem) : List PeFrame → RegsX64 → List Nat → Prop where
  | root (f : PeFrame) (regs : RegsX64) (r' : Nat → Nat) (hl : f.LaidOut mem regs.r)
      (hspec : popSpecLoop mem (f.pops.map peReg) (f.A + f.n)
        (setReg (restoreSaves mem f.A f.saves regs.r) RSP (f.A + f.n)) = some (0, r')) :
      PeChain mem [f] regs []
  | step (f : PeFrame) (rest : List PeFrame) (regs : RegsX64) (ra : Nat) (r' : Nat → Nat)
      (ras : List Nat) (hl : f.LaidOut mem regs.r) (hra : ra ≠ 0)
      (hspec : popSpecLoop mem (f.pops.map peReg) (f.A + f.n)
        (setReg (restoreSaves mem f.A f.saves regs.r) RSP (f.A + f.n)) = some (ra, r'))
      (tail : PeChain mem rest { ip := ra, r := r' } ras) :
      PeChain mem (f :: rest) regs (ra :: ras)

/-- The walk: interpret each frame's operations, commit (progress check in caller frames), a
null return address ends the walk (`with_cache`). -/
def walkPe (mem : Mem) : Bool → List PeFrame → RegsX64 → List Res
  | _, [], _ => []
  | first, f :: rest, regs =>
    match peRun (.interp f.fr f.fo f.ops) first regs mem with
    | .ok ra regs' => if ra = 0 then [.done] else .frame ra :: walkPe mem false rest regs'
    | _ => [.err .integerOverflow]

theorem peRun_laidOut (f : PeFrame) (mem : Mem) (first : Bool) (regs : RegsX64) (ra : Nat)
    (r' : Nat → Nat) (hl : f.LaidOut mem regs.r)
    (hspec : popSpecLoop mem (f.pops.map peReg) (f.A + f.n)
      (setReg (restoreSaves mem f.A f.saves regs.r) RSP (f.A + f.n)) = some (ra, r')) :
    peRun (.interp f.fr f.fo f.ops) first regs mem = .ok ra { ip := ra, r := r' } := by
  obtain ⟨h1, h2, h3, h4, h5, h6⟩ := hl
  have hi := C03_prolog_prefix_unwind_is_the_procedure f.fr f.fo f.A f.n mem f.saves f.pops f.allocDone f.setfpDone
    regs.r ra r' h1 h2 h3 h4 h5 hspec
  have hsp := popSpecLoop_sp mem (f.pops.map peReg) (f.A + f.n) _ ra r' hspec
  simp only [List.length_map] at hsp
  simp only [peRun, PeFrame.ops, hi, peCommit]
  have : ¬ ((!first) = true ∧ r' RSP ≤ regs.sp) := by
    intro ⟨_, hle⟩
    simp only [RegsX64.sp] at hle
    omega
  simp only [this, if_false]

/-- **C03, whole walks.** Walking a true chain of PE frames - the innermost one stopped anywhere
in its prolog or body, any depth, any registers - yields exactly the chain's return addresses and
completes with `Ok(None)` at the root. -/
theorem C03_walk (mem : Mem) (first : Bool) (frames : List PeFrame) (regs : RegsX64) (ras : List Nat)
    (h : PeChain mem frames regs ras) :
    walkPe mem first frames regs = ras.map .frame ++ [.done] := by
  induction h generalizing first with
  | root f regs r' hl hspec =>
    simp [walkPe, peRun_laidOut f mem first regs 0 r' hl hspec]
  | step f rest regs ra r' ras hl hra hspec tail ih =>
    simp only [walkPe, peRun_laidOut f mem first regs ra r' hl hspec, hra, if_false, List.map_cons,
      List.cons_append]
    rw [ih]


/-- Non-vacuity: a two-frame chain (a function that pushed rbx and allocated 0x20 bytes, called
from a root whose return address is null). -/
example :
    let mem : Mem := fun a => if a = 0x1020 then some 0xb0b else if a = 0x1028 then some 0x401000
      else if a = 0x1040 then some 0 else none
    let r0 : Nat → Nat := fun i => if i = RSP then 0x1000 else 5
    let f1 : PeFrame := { fr := none, fo := 0, A := 0x1000, n := 0x20, saves := [], pops := [3], allocDone := true, setfpDone := false }
    let f2 : PeFrame := { fr := none, fo := 0, A := 0x1030, n := 0x10, saves := [], pops := [], allocDone := true, setfpDone := false }
    walkPe mem true [f1, f2] { ip := 0x400000, r := r0 } = [.frame 0x401000, .done] := by
  intro mem r0 f1 f2
  have h := C03_walk mem true [f1, f2] { ip := 0x400000, r := r0 } [0x401000] (by
    refine PeChain.step f1 [f2] _ 0x401000
      (setReg (setReg (setReg r0 RSP 0x1020) 3 0xb0b) RSP 0x1030) [] ?_ (by decide) rfl ?_
    · simp [PeFrame.LaidOut, f1, r0, peReg, RSP, U64]
    · refine PeChain.root f2 _ (setReg (setReg (setReg (setReg (setReg r0 RSP 0x1020) 3 0xb0b) RSP 0x1030) RSP 0x1040) RSP 0x1048) ?_ rfl
      simp [PeFrame.LaidOut, f2, setReg, RSP, U64])
  simpa using h

/-- A kernel-checked *test* (not the unbounded claim, which is `C03_register_order_roundtrip`):
all duplicate-free sequences of length at most 2 over the 8 encodable registers are accepted by
`encode` and round-trip with an encoding below 2^16. All 109 601 sequences of length at most 8
are swept on the implementation by the `pe` engine through the `reg_order_*` hooks and compared
with this model. -/
def roundtrips (l : List Nat) : Bool :=
  match encodeRegs l with
  | some (c, e) => decodeRegs c e == l && decide (e < 65536)
  | none => false

def checkAll : Nat → List Nat → Bool
  | 0, pre => roundtrips pre
  | d + 1, pre =>
    roundtrips pre && encodeRegisters.all fun x => pre.contains x || checkAll d (pre ++ [x])

theorem C03_register_order_roundtrip_upto2 : checkAll 2 [] = true := by decide +kernel

/-- Interpreted steps are all-or-nothing and make progress: a committed step of a caller
frame strictly increases rsp and leaves `ip` at the return address. -/
theorem C03_interpreted_step_commits_progress (first : Bool) (regs regs' : RegsX64) (ra : Nat)
    (g : GenOut (Nat → Nat)) (h : peCommit first regs g = .ok ra regs') :
    regs'.ip = ra ∧ (first = false → regs.sp < regs'.sp) := by
  cases g with
  | err e => simp [peCommit] at h
  | panic s => simp [peCommit] at h
  | ok ra' r' =>
    simp only [peCommit] at h
    split at h
    · cases h
    · rename_i hc
      injection h with h1 h2
      subst h1 h2
      refine ⟨rfl, fun hf => ?_⟩
      simp only [RegsX64.sp] at *
      subst hf
      simp at hc
      omega

/-- framehop's own PE code never panics: the epilog simulation uses checked additions, and
its one `expect` is unreachable because the parser only produces `AddSPFromFP` when the
function has a frame register. -/
theorem C03_own_epilog_code_never_panics (fr : Option Nat) (mem : Mem) :
    ∀ (insns : List EpiInsn) (r : Nat → Nat),
      (∀ i ∈ insns, ∀ n, i = .addSPFromFP n → fr ≠ none) →
      ∀ s, interpEpilog fr mem insns r ≠ .panic s
  | [], r, _, s => by
    simp only [interpEpilog, popReturnAddress]
    split
    · simp
    · split <;> simp
  | .addSP n :: rest, r, h, s => by
    simp only [interpEpilog]
    split
    · simp
    · exact C03_own_epilog_code_never_panics fr mem rest _ (fun i hi => h i (by simp [hi])) s
  | .pop reg :: rest, r, h, s => by
    simp only [interpEpilog]
    split
    · simp
    · split
      · simp
      · exact C03_own_epilog_code_never_panics fr mem rest _ (fun i hi => h i (by simp [hi])) s
  | .addSPFromFP n :: rest, r, h, s => by
    have hfr := h (.addSPFromFP n) (by simp) n rfl
    cases fr with
    | none => exact (hfr rfl).elim
    | some f =>
      simp only [interpEpilog]
      split
      · simp
      · exact C03_own_epilog_code_never_panics (some f) mem rest _ (fun i hi => h i (by simp [hi])) s

/-- **Recorded finding (dependency)**: `resolve_operation` in pe-unwind-info adds to rsp
without overflow checks; with a stack pointer near 2^64 an interpreted step panics in an
overflow-checked build. Witness: one `UWOP_ALLOC_SMALL`-style operation, rsp = 2^64 - 8. -/
theorem C03_dependency_overflow_counterexample :
    interpOps none 0 (fun _ => some 1) [.unStackAlloc 16] (fun i => if i = RSP then U64 - 8 else 0) =
      .panic (.other 3) := by
  simp [interpOps, resolveOp, RSP, U64]

end FH
