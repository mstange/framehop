import FH.DwarfSpec
import FH.Hist
import FH.RelocLemmas
import FH.RelocA64
/-!
# C08 — Position independence under module relocation and stack relocation

Module relocation is proved in full for the model: the module search and everything after
it depend on the mapped range only through `address - base`. Stack relocation is proved for
rule execution - every rule of both architectures, every outcome - and lifted to whole walks of
any length by induction (`C08_x64_walk_relocation`, `C08_a64_walk_relocation`); for the
uncacheable DWARF path it is proved at the level of the DWARF step (`dwarfSpec`, which the C05
theorems identify with both execution paths; `…_partial`).
-/
namespace FH

/-- Mapping a module `d` bytes higher: range and base address move together, the stated
addresses (`baseSvma`, the unwind data) are unchanged. -/
def Module.shift (d : Nat) (m : Module) : Module :=
  { m with start := m.start + d, stop := m.stop + d, baseAvma := m.baseAvma + d }

theorem lowerBound_shift (d key : Nat) (mods : List Module) :
    lowerBound (key + d) (mods.map (Module.shift d)) = lowerBound key mods := by
  induction mods with
  | nil => rfl
  | cons m rest ih =>
    simp only [List.map_cons, lowerBound, Module.shift]
    have : (m.start + d < key + d) ↔ (m.start < key) := by omega
    simp only [this, ih]

theorem getElem?_map_shift (d : Nat) (mods : List Module) (i : Nat) :
    (mods.map (Module.shift d))[i]? = (mods[i]?).map (Module.shift d) := by
  simp

/-- The module search is translation invariant: same module index, same relative address. -/
theorem C08_module_lookup_relocation_invariant (d a : Nat) (mods : List Module) :
    findModule (mods.map (Module.shift d)) (a + d) = findModule mods a := by
  have prev : ∀ i, prevCand (mods.map (Module.shift d)) i (a + d) =
      (prevCand mods i a).map fun p => (p.1, p.2.shift d) := by
    intro i
    unfold prevCand
    by_cases h0 : i = 0
    · simp [h0]
    · simp only [h0, if_false, getElem?_map_shift]
      cases mods[i - 1]? with
      | none => rfl
      | some p =>
        simp only [Option.map_some, Module.shift]
        have : (p.stop + d ≤ a + d) ↔ (p.stop ≤ a) := by omega
        simp only [this]
        split <;> rfl
  have cand : findCand (mods.map (Module.shift d)) (a + d) =
      (findCand mods a).map fun p => (p.1, p.2.shift d) := by
    unfold findCand
    rw [lowerBound_shift, getElem?_map_shift, prev]
    cases mods[lowerBound a mods]? with
    | none => rfl
    | some m =>
      simp only [Option.map_some, Module.shift]
      have : (m.start + d = a + d) ↔ (m.start = a) := by omega
      have h2 : (m.stop + d ≤ a + d) ↔ (m.stop ≤ a) := by omega
      simp only [this, h2]
      split
      · split <;> rfl
      · rfl
  unfold findModule
  rw [cand]
  cases findCand mods a with
  | none => rfl
  | some p =>
    obtain ⟨j, m⟩ := p
    simp only [Option.map_some, Module.shift]
    have h1 : (a + d < m.baseAvma + d) ↔ (a < m.baseAvma) := by omega
    have h2 : a + d - (m.baseAvma + d) = a - m.baseAvma := by omega
    simp only [h1, h2]

/-- What the module's unwind data yields does not look at the mapped addresses at all. -/
theorem C08_plan_ignores_mapping (A : Arch) (d : Nat) (m : Module) (rel : Nat) (first : Bool) :
    plan A (m.shift d) rel first = plan A m rel first := rfl

/-- Hence the rule inserted/executed for a relocated address under relocated modules is the
rule for the original address under the original modules. -/
theorem C08_static_rule_relocation_invariant (A : Arch) (d la : Nat) (mods : List Module)
    (first : Bool) :
    staticRule A (mods.map (Module.shift d)) (la + d) first = staticRule A mods la first := by
  unfold staticRule
  rw [C08_module_lookup_relocation_invariant]
  cases findModule mods la with
  | none => rfl
  | some p =>
    obtain ⟨i, rel⟩ := p
    simp only [getElem?_map_shift]
    cases mods[i]? with
    | none => rfl
    | some m => simp only [Option.map_some, C08_plan_ignores_mapping]

/-- How the DWARF meaning of a row changes when the stack is relocated by `d`. -/
def Relocated (σ : Nat → Nat) (d : Nat) : SpecRes → SpecRes → Prop
  | .step ra cfa fp', r => r = .step (σ ra) (cfa + d) (σ fp')
  | .unreadable _, r => ∃ b, r = .unreadable b
  | .endOfStack, r => r = .endOfStack
  | .outside, r => r = .outside

/-- Stack relocation of one DWARF step (partial: step level, see the header). If every word
of the relocated stack is the original word mapped by `σ` (stack pointers move by `d`, code
pointers and data stay), the relocated step is the original step with the CFA moved by `d`
and the read values mapped by `σ`; unreadable stays unreadable, end of stack stays end of stack. -/
theorem C08_dwarf_step_stack_relocation_partial (row : Row) (sp fp curRa d : Nat) (mem mem' : Mem)
    (σ : Nat → Nat) (hm : ∀ a : Int, readAt mem' (a + d) = (readAt mem a).map σ)
    (hfp : σ fp = fp + d) (hra : σ curRa = curRa)
    (hdom : ∃ r, row.cfa = .regOff .sp r ∨ row.cfa = .regOff .fp r) :
    Relocated σ d (dwarfSpec row sp fp curRa mem) (dwarfSpec row (sp + d) (fp + d) curRa mem') := by
  have reg : ∀ cfa : Int, specReg mem' (cfa + d) (fp + d) row.fp =
      (specReg mem cfa fp row.fp).map fun o => o.map σ := by
    intro cfa
    cases row.fp with
    | offset n =>
      simp only [specReg, Option.map_some]
      have : cfa + d + n = cfa + n + d := by omega
      rw [this, hm]
    | undefined => simp [specReg, hfp]
    | sameValue => simp [specReg, hfp]
    | valOffset n => rfl
    | register r => rfl
    | other => rfl
    | exprReg _ _ => rfl
    | valExprReg _ _ => rfl
  have go : ∀ cfa : Int, Relocated σ d (dwarfSpec.go row fp curRa mem cfa)
      (dwarfSpec.go row (fp + d) curRa mem' (cfa + d)) := by
    intro cfa
    unfold dwarfSpec.go
    cases row.ra with
    | undefined => simp [Relocated]
    | valOffset n => simp [Relocated]
    | register r => simp [Relocated]
    | other => simp [Relocated]
    | exprReg _ _ => simp [Relocated]
    | valExprReg _ _ => simp [Relocated]
    | sameValue =>
      simp only [reg]
      cases specReg mem cfa fp row.fp with
      | none => simp [Relocated]
      | some o =>
        cases o with
        | none => simp [Relocated]
        | some v => simp [Relocated, hra]
    | offset n =>
      simp only []
      have : cfa + d + n = cfa + n + d := by omega
      rw [this, hm, reg]
      cases hr : readAt mem (cfa + n) with
      | none => simp [Relocated]
      | some ra =>
        simp only [Option.map_some]
        cases specReg mem cfa fp row.fp with
        | none => simp [Relocated]
        | some o =>
          cases o with
          | none => simp [Relocated]
          | some v => simp [Relocated]
  obtain ⟨r, hr | hr⟩ := hdom
  · simp only [dwarfSpec, hr]
    have : ((sp + d : Nat) : Int) + r = ((sp : Int) + r) + d := by omega
    rw [this]
    exact go _
  · simp only [dwarfSpec, hr]
    have : ((fp + d : Nat) : Int) + r = ((fp : Int) + r) + d := by omega
    rw [this]
    exact go _


/-! ## Stack relocation of rule execution and of whole walks (x86-64)

`σ` says how each stored word moves (stack pointers by `d`, code pointers with their module,
data and nulls not at all); all the theorems need of it is that it is injective and fixes 0. -/

/-- **One x86-64 rule step, any rule, relocated stack and code.** The step on the relocated
thread state is the relocated outcome of the step on the original state: frames are mapped by
`σ`, `rsp` moves by `d`, every other register holds the relocated word, an unreadable address is
named `d` higher, errors and end of stack are unchanged. -/
theorem C08_x64_rule_step_relocation (σ : Nat → Nat) (d : Nat) (hσ : Function.Injective σ)
    (h0 : σ 0 = 0) {mem mem' : Mem} (hm : MemReloc σ d mem mem') (rule : RuleX64) (hr : rule.WF)
    (first : Bool) (regs : RegsX64) (hsp : Room d regs.sp)
    (hbp : usesBpX64 rule first = true → regs.bp ≠ 0 → σ regs.bp = regs.bp + d ∧ Room d regs.bp) :
    execX64 rule first (relocX64 σ d regs) mem' = relocOutX64 σ d (execX64 rule first regs mem) := by
  rw [execX64_eq_run, execX64_eq_run, planX64_reloc σ h0 hr first regs hsp hbp, relocX64_bp]
  refine PlanX64.run_shift hσ h0 hm _ regs.r regs.bp
    ((planX64_all rule first regs).imp fun q hq => ?_)
  unfold Room at hsp
  cases q with
  | fin n => have := hq.1; exact (by omega : 8 ≤ n)
  | pops l a k => exact ⟨hq.1, by have := hq.2 hr; omega⟩
  | _ => trivial

/-- **Whole walks (x86-64, any length, any assignment of rules to frames).** If at every frame
the walk on the original stack visits, the stack pointer has room and a frame pointer the rule
follows is a stack pointer (or null), the walk on the relocated stack and code is the relocated
walk: the same number of frames, each mapped by `σ`, the same ending (an unreadable address named
`d` higher). By C08_static_rule_relocation_invariant the rule assignment itself is the same
for relocated modules. -/
theorem C08_x64_walk_relocation (σ : Nat → Nat) (d : Nat) (hσ : Function.Injective σ)
    (h0 : σ 0 = 0) {mem mem' : Mem} (hm : MemReloc σ d mem mem') (rules : Nat → RuleX64)
    (hr : ∀ i, (rules i).WF) (n : Nat) (regs : RegsX64)
    (hP : AlongWalk (ruleWalkStepX64 rules) mem
      (fun s => Room d s.2.sp ∧ (usesBpX64 (rules s.1) (s.1 == 0) = true → s.2.bp ≠ 0 →
        σ s.2.bp = s.2.bp + d ∧ Room d s.2.bp)) n (0, regs)) :
    walkWith (ruleWalkStepX64 rules) mem' n (0, relocX64 σ d regs) =
      (walkWith (ruleWalkStepX64 rules) mem n (0, regs)).map (relocRes σ d) := by
  have := walk_sim (ruleWalkStepX64 rules) mem mem' (fun s => (s.1, relocX64 σ d s.2))
    (relocRes σ d) (relocRes_frame σ d) (relocRes_not_frame σ d) _ ?_ n (0, regs) hP
  · exact this
  · intro s ⟨h1, h2⟩
    simp only [ruleWalkStepX64]
    rw [C08_x64_rule_step_relocation σ d hσ h0 hm (rules s.1) (hr s.1) (s.1 == 0) s.2 h1 h2]
    cases execX64 (rules s.1) (s.1 == 0) s.2 mem <;> rfl

/-- Non-vacuity: a frame-pointer frame on a stack at 0x7ffc_0000_1000, moved 2^32 bytes up
together with the code it returns into (moved by 0x1000), satisfies the hypotheses, and the step
is a real frame. -/
example :
    let d := 4294967296
    let σ : Nat → Nat := fun v => if 0x7ffc00000000 ≤ v ∧ v < 0x7ffd00000000 then v + d else
      if 0x400000 ≤ v ∧ v < 0x500000 then v + 0x1000 else v
    let mem : Mem := fun a => if a = 0x7ffc00001000 then some 0x7ffc00001040 else
      if a = 0x7ffc00001008 then some 0x401234 else none
    let regs : RegsX64 := { ip := 0x400100, r := fun i => if i = RSP then 0x7ffc00000ff0 else
      if i = RBP then 0x7ffc00001000 else 0 }
    Room d regs.sp ∧ σ regs.bp = regs.bp + d ∧ Room d regs.bp ∧ σ 0 = 0 ∧
      ∃ g, execX64 .useFramePointer false regs mem = .ret (.frame 0x401234) g := by
  refine ⟨by simp [Room, RegsX64.sp, RSP, U64], by simp [RegsX64.bp, RBP, RSP],
    by simp [Room, RegsX64.bp, RBP, RSP, U64], by simp, ?_⟩
  refine ⟨{ ip := 0x401234, r := setReg (setReg (fun i => if i = RSP then 0x7ffc00000ff0 else
      if i = RBP then 0x7ffc00001000 else 0) RSP 0x7ffc00001010) RBP 0x7ffc00001040 }, ?_⟩
  simp [execX64, fpStepX64, finishX64, cadd, RegsX64.sp, RegsX64.bp, RSP, RBP, U64]


/-! ## aarch64 -/

/-- **One aarch64 rule step, any rule, relocated stack and code.** Beyond the x86-64
hypotheses: relocation commutes with stripping the pointer-authentication bits (`σ` moves pointers
within the mask), the frame pointer a rule follows is a stack pointer, and so is the non-null
caller frame pointer in the slot the rule reads (the frame pointer rules compare the two). -/
theorem C08_a64_rule_step_relocation (σ : Nat → Nat) (d : Nat) (hσ : Function.Injective σ)
    (h0 : σ 0 = 0) {mem mem' : Mem} (hm : MemReloc σ d mem mem') (rule : RuleA64) (hr : rule.WF)
    (first : Bool) (regs : RegsA64)
    (hstrip : ∀ v, strip regs.mask (σ v) = σ (strip regs.mask v)) (hsp : Room d regs.sp)
    (hfp : usesFpA64 rule first = true → σ regs.fp = regs.fp + d ∧ Room d regs.fp)
    (hsaved : ∀ a v, fpSlotA64 rule first regs = some a → mem a = some v → v ≠ 0 → σ v = v + d) :
    execA64 rule first (relocA64 σ d regs) mem' = relocOutA64 σ d (execA64 rule first regs mem) := by
  rw [execA64_eq_run, execA64_eq_run, planA64_reloc σ hr first regs hsp hfp]
  refine PlanA64.run_shift hσ h0 hm hstrip _ regs.lr
    ((planA64_ends rule first regs).imp fun q hq => ?_)
  cases q with
  | finFp a chk _ => exact fun hc v hv hz => ⟨hsaved a v hq.1 hv hz, (hfp (hq.2.1 hc)).1⟩
  | _ => trivial

/-- **Whole walks (aarch64, any length, any assignment of rules to frames).** -/
theorem C08_a64_walk_relocation (σ : Nat → Nat) (d mask : Nat) (hσ : Function.Injective σ)
    (h0 : σ 0 = 0) {mem mem' : Mem} (hm : MemReloc σ d mem mem') (rules : Nat → RuleA64)
    (hr : ∀ i, (rules i).WF) (hstrip : ∀ v, strip mask (σ v) = σ (strip mask v))
    (n : Nat) (regs : RegsA64)
    (hP : AlongWalk (ruleWalkStepA64 rules) mem
      (fun s => s.2.mask = mask ∧ Room d s.2.sp ∧
        (usesFpA64 (rules s.1) (s.1 == 0) = true → σ s.2.fp = s.2.fp + d ∧ Room d s.2.fp) ∧
        (∀ a v, fpSlotA64 (rules s.1) (s.1 == 0) s.2 = some a → mem a = some v → v ≠ 0 →
          σ v = v + d)) n (0, regs)) :
    walkWith (ruleWalkStepA64 rules) mem' n (0, relocA64 σ d regs) =
      (walkWith (ruleWalkStepA64 rules) mem n (0, regs)).map (relocRes σ d) := by
  have := walk_sim (ruleWalkStepA64 rules) mem mem' (fun s => (s.1, relocA64 σ d s.2))
    (relocRes σ d) (relocRes_frame σ d) (relocRes_not_frame σ d) _ ?_ n (0, regs) hP
  · exact this
  · intro s ⟨hmask, h1, h2, h3⟩
    simp only [ruleWalkStepA64]
    rw [C08_a64_rule_step_relocation σ d hσ h0 hm (rules s.1) (hr s.1) (s.1 == 0) s.2
      (by rw [hmask]; exact hstrip) h1 h2 h3]
    cases execA64 (rules s.1) (s.1 == 0) s.2 mem <;> rfl

end FH
