import FH.RuleLemmas
/-!
# Truncating the readable stack (C11)
-/
namespace FH

/-- Reads at or above the cut fail. -/
def cutMem (c : Nat) (mem : Mem) : Mem := fun a => if a ≥ c then none else mem a

/-- Truncation either leaves an outcome unchanged or turns it into an error naming an
unreadable address at or above the cut. -/
def TruncOK {R : Type} (c : Nat) (o o' : Out R) : Prop :=
  o' = o ∨ ∃ a regs', a ≥ c ∧ o' = .ret (.err (.couldNotReadStack a)) regs'

theorem cutMem_lt {c a : Nat} (mem : Mem) (h : ¬ a ≥ c) : cutMem c mem a = mem a := by
  simp [cutMem, h]

theorem cutMem_ge {c a : Nat} (mem : Mem) (h : a ≥ c) : cutMem c mem a = none := by
  simp [cutMem, h]

/-- A read through the cut memory: same value below the cut, failure at or above it. -/
theorem cut_cases (c : Nat) (mem : Mem) (a : Nat) :
    (a ≥ c ∧ cutMem c mem a = none) ∨ (¬ a ≥ c ∧ cutMem c mem a = mem a) := by
  by_cases h : a ≥ c
  · left; exact ⟨h, cutMem_ge mem h⟩
  · right; exact ⟨h, cutMem_lt mem h⟩

theorem readSlot_trunc {R : Type} (c : Nat) (mem : Mem) (regs : R) (a : Nat) {k k' : Nat → Out R}
    (h : ∀ v, TruncOK c (k v) (k' v)) :
    TruncOK c (readSlot mem regs a k) (readSlot (cutMem c mem) regs a k') := by
  unfold readSlot
  rcases cut_cases c mem a with ⟨hc, e⟩ | ⟨hc, e⟩
  · rw [e]; exact .inr ⟨a, regs, hc, rfl⟩
  · rw [e]
    cases mem a with
    | none => exact .inl rfl
    | some v => exact h v

theorem finishX64_trunc (c : Nat) (regs1 : RegsX64) (sp newSp newBp : Nat) (mem : Mem) :
    TruncOK c (finishX64 regs1 sp newSp newBp mem)
      (finishX64 regs1 sp newSp newBp (cutMem c mem)) := by
  unfold finishX64 TruncOK
  split
  · left; rfl
  · by_cases h : newSp - 8 ≥ c
    · right; exact ⟨_, regs1, h, by simp [cutMem_ge mem h]⟩
    · left; simp [cutMem_lt mem h]

/-- If the return address slot is cut off, `finishX64` reports it, whatever `newBp` is. -/
theorem finishX64_cut_ra (c : Nat) (regs1 : RegsX64) (sp newSp newBp : Nat) (mem : Mem)
    (h8 : 8 ≤ newSp) (h : newSp - 8 ≥ c) :
    finishX64 regs1 sp newSp newBp (cutMem c mem) =
      .ret (.err (.couldNotReadStack (newSp - 8))) regs1 := by
  unfold finishX64
  have : ¬ newSp < 8 := by omega
  simp [this, cutMem_ge mem h]

theorem finishX64_small (regs1 : RegsX64) (sp newSp b1 b2 : Nat) (m1 m2 : Mem) (h : newSp < 8) :
    finishX64 regs1 sp newSp b1 m1 = finishX64 regs1 sp newSp b2 m2 := by
  simp [finishX64, h]

theorem popLoop_trunc (c : Nat) (mem : Mem) : ∀ (l : List Nat) (sp : Nat) (r : Nat → Nat),
    popLoop (cutMem c mem) l sp r = popLoop mem l sp r ∨
      ∃ a r', a ≥ c ∧ popLoop (cutMem c mem) l sp r = .fail (.couldNotReadStack a) r'
  | [], sp, r => Or.inl rfl
  | reg :: rest, sp, r => by
    simp only [popLoop]
    by_cases h : sp ≥ c
    · right; exact ⟨sp, r, h, by simp [cutMem_ge mem h]⟩
    · rw [cutMem_lt mem h]
      cases mem sp with
      | none => left; rfl
      | some v =>
        simp only []
        cases cadd sp 8 with
        | none => left; rfl
        | some sp' => exact popLoop_trunc c mem rest sp' _

/-- The tolerated slot of a plan lies below the return address slot. -/
def TolBelow : PlanX64 → Prop
  | .finTol a n => a + 8 ≤ n
  | _ => True

/-- **Truncation of one x86-64 rule step**, on its plan. Where a tolerated read is cut off, so is
the return address slot above it, and the step reports that one. -/
theorem PlanX64.run_trunc {regs : RegsX64} (c : Nat) (mem : Mem) :
    ∀ (p : PlanX64) (r : Nat → Nat) (bp : Nat), p.All TolBelow →
      TruncOK c (p.run regs mem r bp) (p.run regs (cutMem c mem) r bp)
  | .stop _, _, _, _ => .inl rfl
  | .fin _, _, _, _ => finishX64_trunc c _ _ _ _ _
  | .loadBp a k, r, _, hp => readSlot_trunc c mem _ a fun v => k.run_trunc c mem r v hp.2
  | .pops l a k, r, _, hp => by
    simp only [PlanX64.run]
    rcases popLoop_trunc c mem l a r with h | ⟨b, r', hb, h⟩ <;> rw [h]
    · cases popLoop mem l a r with
      | fail e r' => exact .inl rfl
      | ok sp2 r' => exact k.run_trunc c mem r' _ hp.2
    · exact .inr ⟨b, _, hb, rfl⟩
  | .finTol a n, r, bp, hp => by
    simp only [PlanX64.run]
    rcases cut_cases c mem a with ⟨hc, e⟩ | ⟨_, e⟩ <;> rw [e]
    · by_cases h8 : n < 8
      · exact .inl (finishX64_small _ _ _ _ _ _ _ h8)
      · have hge : n - 8 ≥ c := by have := hp.1; unfold TolBelow at this; omega
        exact .inr ⟨n - 8, _, hge, finishX64_cut_ra c _ _ _ _ _ (by omega) hge⟩
    · exact finishX64_trunc c _ _ _ _ _

/-- **Truncation of one aarch64 rule step**, on its plan: only the reads see the memory. -/
theorem PlanA64.run_trunc {first : Bool} {regs : RegsA64} (c : Nat) (mem : Mem) :
    ∀ (p : PlanA64) (lr : Nat),
      TruncOK c (p.run first regs mem lr) (p.run first regs (cutMem c mem) lr)
  | .stop _, _ => .inl rfl
  | .fin _, _ => .inl rfl
  | .readLr a k, _ => readSlot_trunc c mem regs a fun v => k.run_trunc c mem v
  | .finFp a _ _, _ => readSlot_trunc c mem regs a fun _ => .inl rfl

/-- A walk: apply `step` until it stops yielding frames (at most `n` times). The state carries
whatever the step needs (address kind, registers, which rule applies where). -/
def walkWith {S : Type} (step : Mem → S → Out S) (mem : Mem) : Nat → S → List Res
  | 0, _ => []
  | n + 1, s =>
    match step mem s with
    | .ret (.frame ra) s' => .frame ra :: walkWith step mem n s'
    | .ret r _ => [r]
    | .panic _ => []

/-- The step function of an x86-64 walk whose `i`-th frame is unwound by the rule `rules i`. -/
def ruleWalkStepX64 (rules : Nat → RuleX64) : Mem → (Nat × RegsX64) → Out (Nat × RegsX64) :=
  fun m s =>
    match execX64 (rules s.1) (s.1 == 0) s.2 m with
    | .ret r g => .ret r (s.1 + 1, g)
    | .panic p => .panic p

/-- The step function of a walk whose `i`-th frame is unwound by the rule `rules i`
(any assignment of rules to frames). -/
def ruleWalkStepA64 (rules : Nat → RuleA64) : Mem → (Nat × RegsA64) → Out (Nat × RegsA64) :=
  fun m s =>
    match execA64 (rules s.1) (s.1 == 0) s.2 m with
    | .ret r g => .ret r (s.1 + 1, g)
    | .panic p => .panic p

def IsFrame : Res → Prop
  | .frame _ => True
  | _ => False

/-- **Truncated walks are prefixes.** If every step is truncation-safe (`TruncOK`, which the
two theorems above establish for every rule of both architectures), then walking with reads at
or above `c` failing yields either the same walk, or a prefix of its frames followed by an
error naming an unreadable address `a ≥ c`. -/
theorem walk_trunc {S : Type} (step : Mem → S → Out S) (mem : Mem) (c : Nat)
    (hstep : ∀ s, TruncOK c (step mem s) (step (cutMem c mem) s)) :
    ∀ n s, walkWith step (cutMem c mem) n s = walkWith step mem n s ∨
      ∃ k a, a ≥ c ∧
        walkWith step (cutMem c mem) n s =
          (walkWith step mem n s).take k ++ [.err (.couldNotReadStack a)] ∧
        ∀ r ∈ (walkWith step mem n s).take k, IsFrame r := by
  intro n
  induction n with
  | zero => intro s; left; rfl
  | succ n ih =>
    intro s
    rcases hstep s with h | ⟨a, s', ha, h⟩
    · -- the step is unchanged
      simp only [walkWith, h]
      cases hs : step mem s with
      | panic site => left; rfl
      | ret r s1 =>
        cases r with
        | done => left; rfl
        | err e => left; rfl
        | frame ra =>
          simp only []
          rcases ih s1 with h2 | ⟨k, a, ha, h2, hf⟩
          · left; rw [h2]
          · right
            refine ⟨k + 1, a, ha, ?_, ?_⟩
            · rw [h2]; simp
            · intro r hr
              simp only [List.take_succ_cons, List.mem_cons] at hr
              rcases hr with rfl | hr
              · trivial
              · exact hf r hr
    · right
      refine ⟨0, a, ha, ?_, by simp⟩
      simp [walkWith, h]

end FH
