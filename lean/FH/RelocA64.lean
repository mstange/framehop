import FH.RelocLemmas
/-!
# Stack relocation of aarch64 rule execution (C08)
-/
namespace FH

/-- aarch64 registers after relocation: `sp` moves with the stack, `lr` and `fp` hold words. -/
def relocA64 (σ : Nat → Nat) (d : Nat) (g : RegsA64) : RegsA64 :=
  { mask := g.mask, lr := σ g.lr, sp := g.sp + d, fp := σ g.fp }

def relocOutA64 (σ : Nat → Nat) (d : Nat) : Out RegsA64 → Out RegsA64
  | .ret res g => .ret (relocRes σ d res) (relocA64 σ d g)
  | .panic s => .panic s

/-- `finishA64` on the relocated state. -/
theorem finishA64_reloc (σ : Nat → Nat) (d : Nat) (hσ : Function.Injective σ) (h0 : σ 0 = 0)
    (first : Bool) (regs : RegsA64) (hstrip : ∀ v, strip regs.mask (σ v) = σ (strip regs.mask v))
    (newLr newSp newFp : Nat) :
    finishA64 first (relocA64 σ d regs) (σ newLr) (newSp + d) (σ newFp) =
      relocOutA64 σ d (finishA64 first regs newLr newSp newFp) := by
  unfold finishA64
  have hm : (relocA64 σ d regs).mask = regs.mask := rfl
  simp only [hm, hstrip]
  have e0 : (σ (strip regs.mask newLr) = 0) ↔ (strip regs.mask newLr = 0) :=
    ⟨fun h => hσ (h.trans h0.symm), fun h => by rw [h, h0]⟩
  by_cases hra : strip regs.mask newLr = 0
  · rw [if_pos (e0.mpr hra), if_pos hra]; rfl
  · rw [if_neg (fun h => hra (e0.mp h)), if_neg hra]
    have e1 : ((!first) = true ∧ newSp + d = (relocA64 σ d regs).sp) ↔ ((!first) = true ∧ newSp = regs.sp) := by
      simp only [relocA64]
      constructor
      · intro ⟨a, b⟩; exact ⟨a, by omega⟩
      · intro ⟨a, b⟩; exact ⟨a, by omega⟩
    by_cases hd : (!first) = true ∧ newSp = regs.sp
    · rw [if_pos (e1.mpr hd), if_pos hd]; rfl
    · rw [if_neg (fun h => hd (e1.mp h)), if_neg hd]
      simp only [relocOutA64, relocRes, relocA64, RegsA64.setLr, hstrip]

/-! ## The plan of the relocated registers

The plan of the relocated registers is the plan shifted by `d` (address arithmetic only, one line
per rule); running a shifted plan on the relocated stack gives the relocated outcome (memory only,
one induction). -/

def PlanA64.shift (d : Nat) : PlanA64 → PlanA64
  | .stop k => .stop k
  | .readLr a k => .readLr (a + d) (k.shift d)
  | .fin newSp => .fin (newSp + d)
  | .finFp a chk newSp => .finFp (a + d) chk (newSp + d)

variable {d : Nat}

theorem shift_fpPlanA64 {fp : Nat} (strict : Bool) (hx : Room d fp) :
    fpPlanA64 (fp + d) strict = (fpPlanA64 fp strict).shift d := by
  unfold fpPlanA64
  refine cadd_shift _ hx (by omega) ?_
  unfold Room at hx
  rw [if_pos (by omega), if_pos (by omega), show fp + d + 8 = fp + 8 + d by omega]
  rfl

/-- **The plan of the relocated registers is the shifted plan.** -/
theorem planA64_reloc (σ : Nat → Nat) {d : Nat} {rule : RuleA64} (hr : rule.WF) (first : Bool)
    (regs : RegsA64) (hsp : Room d regs.sp)
    (hfp : usesFpA64 rule first = true → σ regs.fp = regs.fp + d ∧ Room d regs.fp) :
    planA64 rule first (relocA64 σ d regs) = (planA64 rule first regs).shift d := by
  have hsp' : (relocA64 σ d regs).sp = regs.sp + d := rfl
  have hfp' : (relocA64 σ d regs).fp = σ regs.fp := rfl
  cases rule with
  | noOp => simp only [planA64]; split <;> rfl
  | offsetSp k =>
    simp only [RuleA64.WF, U16] at hr
    simp only [planA64, hsp']; split
    · rfl
    · exact mulU_shift _ rfl (cadd_shift _ hsp (by omega) rfl)
  | offsetSpIfFirstFrameOtherwiseStackEndsHere k =>
    simp only [RuleA64.WF, U16] at hr
    simp only [planA64, hsp']; split
    · rfl
    · exact mulU_shift _ rfl (cadd_shift _ hsp (by omega) rfl)
  | noOpIfFirstFrameOtherwiseFp =>
    cases first with
    | true => rfl
    | false =>
      obtain ⟨efp, room⟩ := hfp rfl
      simp only [planA64, hfp', efp, Bool.false_eq_true, if_false]
      exact shift_fpPlanA64 _ room
  | useFramePointer =>
    obtain ⟨efp, room⟩ := hfp rfl
    simp only [planA64, hfp', efp]
    exact shift_fpPlanA64 _ room
  | offsetSpAndRestoreLr k l =>
    simp only [RuleA64.WF, U16, InI16] at hr
    simp only [planA64, hsp']
    exact mulU_shift _ rfl (cadd_shift _ hsp (by omega) <|
      mulI_shift _ rfl (caddSigned_shift _ hsp (by omega) fun _ => rfl))
  | offsetSpAndRestoreFpAndLr k f l =>
    simp only [RuleA64.WF, U16, InI16] at hr
    simp only [planA64, hsp']
    exact mulU_shift _ rfl (cadd_shift _ hsp (by omega) <|
      mulI_shift _ rfl (caddSigned_shift _ hsp (by omega) fun _ =>
        congrArg _ (mulI_shift _ rfl (caddSigned_shift _ hsp (by omega) fun _ => rfl))))
  | useFramepointerWithOffsets k f l =>
    simp only [RuleA64.WF, U16, InI16] at hr
    obtain ⟨efp, room⟩ := hfp rfl
    simp only [planA64, hfp', efp]
    exact mulU_shift _ rfl (cadd_shift _ room (by omega) <|
      mulI_shift _ rfl (caddSigned_shift _ room (by omega) fun _ =>
        congrArg _ (mulI_shift _ rfl (caddSigned_shift _ room (by omega) fun _ => rfl))))

/-! ## Running a shifted plan on the relocated stack -/

section run
variable {σ : Nat → Nat} {mem mem' : Mem} {first : Bool} {regs : RegsA64}

/-- The frame pointer tests on the relocated state: the loaded `fp` is null on both sides or on
neither; where it is compared with the old one, both are stack addresses. -/
theorem finishFpA64_reloc (hσ : Function.Injective σ) (h0 : σ 0 = 0)
    (hstrip : ∀ v, strip regs.mask (σ v) = σ (strip regs.mask v)) (chk : Option Bool)
    (lr newSp newFp : Nat)
    (hcmp : chk = some true → newFp ≠ 0 → σ newFp = newFp + d ∧ σ regs.fp = regs.fp + d) :
    finishFpA64 first (relocA64 σ d regs) chk (σ lr) (newSp + d) (σ newFp) =
      relocOutA64 σ d (finishFpA64 first regs chk lr newSp newFp) := by
  have fin := finishA64_reloc σ d hσ h0 first regs hstrip lr newSp newFp
  cases chk with
  | none => exact fin
  | some strict =>
    have z0 : σ newFp = 0 ↔ newFp = 0 := ⟨fun h => hσ (h.trans h0.symm), fun h => by rw [h, h0]⟩
    unfold finishFpA64
    by_cases hz : newFp = 0
    · simp only [if_pos hz, if_pos (z0.mpr hz)]; rfl
    · have hb : (strict = true ∧ σ newFp ≤ (relocA64 σ d regs).fp) ∨ newSp + d ≤ (relocA64 σ d regs).sp ↔
          (strict = true ∧ newFp ≤ regs.fp) ∨ newSp ≤ regs.sp := by
        have e : (relocA64 σ d regs).sp = regs.sp + d := rfl
        cases strict with
        | false => simp only [Bool.false_eq_true, false_and, false_or, e]; omega
        | true =>
          obtain ⟨e1, e2⟩ := hcmp rfl hz
          simp only [true_and, e, show (relocA64 σ d regs).fp = σ regs.fp from rfl, e1, e2]; omega
      simp only [if_neg hz, if_neg (mt z0.mp hz)]
      by_cases hc : (strict = true ∧ newFp ≤ regs.fp) ∨ newSp ≤ regs.sp
      · rw [if_pos hc, if_pos (hb.mpr hc)]; rfl
      · rw [if_neg hc, if_neg (mt hb.mp hc)]; exact fin

/-- Where the loaded `fp` is compared with the old one, both are stack addresses. -/
def FpCompared (σ : Nat → Nat) (d : Nat) (regs : RegsA64) (mem : Mem) : PlanA64 → Prop
  | .finFp a chk _ => chk = some true →
    ∀ v, mem a = some v → v ≠ 0 → σ v = v + d ∧ σ regs.fp = regs.fp + d
  | _ => True

/-- **Running the shifted plan on the relocated stack gives the relocated outcome.** -/
theorem PlanA64.run_shift (hσ : Function.Injective σ) (h0 : σ 0 = 0) (hm : MemReloc σ d mem mem')
    (hstrip : ∀ v, strip regs.mask (σ v) = σ (strip regs.mask v)) : ∀ (p : PlanA64) (lr : Nat),
      p.Ends (FpCompared σ d regs mem) →
      (p.shift d).run first (relocA64 σ d regs) mem' (σ lr) =
        relocOutA64 σ d (p.run first regs mem lr)
  | .stop k, _, _ => by cases k <;> rfl
  | .fin newSp, lr, _ => finishA64_reloc σ d hσ h0 first regs hstrip lr newSp regs.fp
  | .readLr a k, _, hc =>
    readSlot_reloc hm (relocOutA64 σ d) a rfl fun v _ => k.run_shift hσ h0 hm hstrip v hc
  | .finFp a chk newSp, lr, hc => readSlot_reloc hm (relocOutA64 σ d) a rfl fun v hv =>
      finishFpA64_reloc hσ h0 hstrip chk lr newSp v fun e => hc e v hv

end run

end FH
