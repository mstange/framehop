import FH.PeLemmas
/-!
# PE: unwinding from the body of a function with a standard prolog (C03)

The prolog `push r…; sub rsp, n; lea fr, [rsp + fo]; mov [rsp + off], r…` leaves a frame that
the Microsoft x64 documentation describes: with `A` the stack pointer after the allocation
("the established frame base" minus `fo`), the mov-saved registers sit at `A + off`, the
allocation is `[A, A + n)`, above it the pushed registers, then the return address. The unwind
codes, in array order, are the saves, `UWOP_SET_FPREG`, the allocation, the pushes.
Here: what `interpOps` does on the saves, and which codes apply at a prolog offset; that it computes
exactly what the layout says, in the body and inside the prolog, is proved in `FH/Props/C03.lean`.
-/
namespace FH

/-- Pops do not depend on the frame register. -/
theorem interpOps_pops_frameless (fr : Option Nat) (fo : Nat) (mem : Mem) :
    ∀ (pes : List Nat) (r : Nat → Nat),
      interpOps fr fo mem (pes.map .popNonVolatile) r = interpOps none 0 mem (pes.map .popNonVolatile) r
  | [], r => rfl
  | pe :: rest, r => by
    simp only [List.map_cons, interpOps, resolveOp]
    cases mem (r RSP) with
    | none => rfl
    | some v =>
      simp only []
      by_cases h : r RSP + 8 < U64
      · simp only [h, if_true]
        exact interpOps_pops_frameless fr fo mem rest _
      · simp only [h, if_false]

/-- The frame base condition: where `UWOP_SAVE_NONVOL` offsets are counted from. -/
def BaseIs (fr : Option Nat) (fo A : Nat) (r : Nat → Nat) : Prop :=
  match fr with
  | none => r RSP = A
  | some f => r (peReg f) = A + fo

/-- Restoring the mov-saved registers from their slots. -/
def restoreSaves (mem : Mem) (A : Nat) : List (Nat × Nat) → (Nat → Nat) → Nat → Nat
  | [], r => r
  | (reg, off) :: rest, r => restoreSaves mem A rest (setReg r (peReg reg) ((mem (A + off)).getD 0))

/-- Writing a register that is neither `rsp` nor the frame register keeps the frame base. -/
theorem BaseIs.setReg {fr : Option Nat} {fo A : Nat} {r : Nat → Nat} (hb : BaseIs fr fo A r)
    {i : Nat} (v : Nat) (h1 : i ≠ RSP) (h2 : ∀ f, fr = some f → i ≠ peReg f) :
    BaseIs fr fo A (setReg r i v) := by
  cases fr with
  | none => simp only [BaseIs] at hb ⊢; rw [setReg_other _ _ _ _ (Ne.symm h1)]; exact hb
  | some f => simp only [BaseIs] at hb ⊢; rw [setReg_other _ _ _ _ (Ne.symm (h2 f rfl))]; exact hb

/-- `UWOP_SAVE_NONVOL` reads its slot relative to the frame base. -/
theorem resolveOp_readNonVolatile {fr : Option Nat} {fo A : Nat} {r : Nat → Nat} {mem : Mem}
    (hb : BaseIs fr fo A r) (reg : Nat) {off v : Nat} (hlt : A + off < U64)
    (hv : mem (A + off) = some v) :
    resolveOp fr fo mem r (.readNonVolatile reg off) = .cont (setReg r (peReg reg) v) := by
  cases fr with
  | none =>
    simp only [BaseIs] at hb
    simp only [resolveOp, hb, hlt, if_true, hv]
  | some f =>
    simp only [BaseIs] at hb
    have c : fo ≤ r (peReg f) ∧ r (peReg f) - fo + off < U64 := by omega
    have e : r (peReg f) - fo + off = A + off := by omega
    simp only [resolveOp, c.1, e, hlt, true_and, if_true, hv]

theorem interpOps_saves (fr : Option Nat) (fo A : Nat) (mem : Mem) (rest : List PeOp) :
    ∀ (saves : List (Nat × Nat)) (r : Nat → Nat), BaseIs fr fo A r →
      (∀ p ∈ saves, peReg p.1 ≠ RSP ∧ (∀ f, fr = some f → peReg p.1 ≠ peReg f) ∧
        mem (A + p.2) ≠ none ∧ A + p.2 < U64) →
      interpOps fr fo mem (saves.map (fun p => .readNonVolatile p.1 p.2) ++ rest) r =
        interpOps fr fo mem rest (restoreSaves mem A saves r) ∧
      BaseIs fr fo A (restoreSaves mem A saves r) ∧
      (restoreSaves mem A saves r) RSP = r RSP
  | [], r, hb, _ => ⟨rfl, hb, rfl⟩
  | (reg, off) :: more, r, hb, hs => by
    obtain ⟨h1, h2, h3, h4⟩ := hs (reg, off) (by simp)
    simp only [] at h1 h2 h3 h4
    cases hv : mem (A + off) with
    | none => exact absurd hv h3
    | some v =>
      have ih := interpOps_saves fr fo A mem rest more (setReg r (peReg reg) v) (hb.setReg v h1 h2)
        (fun p hp => hs p (by simp [hp]))
      simp only [List.map_cons, List.cons_append, interpOps, resolveOp_readNonVolatile hb reg h4 hv,
        restoreSaves, hv, Option.getD_some]
      refine ⟨ih.1, ih.2.1, ?_⟩
      rw [ih.2.2, setReg_other _ _ _ _ (Ne.symm h1)]

/-- On a code array sorted by descending prolog offset (as UNWIND_INFO stores it) skipping the
leading codes whose offset lies above the pc's keeps exactly the codes of the instructions that
have been executed. -/
theorem dropWhile_gt_eq_filter_le (o : Nat) : ∀ (l : List (Nat × PeOp)),
    l.Pairwise (fun a b => a.1 ≥ b.1) →
    l.dropWhile (fun p => p.1 > o) = l.filter (fun p => p.1 ≤ o)
  | [], _ => rfl
  | p :: rest, h => by
    have hr := (List.pairwise_cons.mp h).2
    have hp := (List.pairwise_cons.mp h).1
    by_cases hgt : p.1 > o
    · have : ¬ p.1 ≤ o := by omega
      simp only [List.dropWhile_cons, hgt, decide_true, if_true, List.filter_cons, this, decide_false,
        Bool.false_eq_true, if_false]
      exact dropWhile_gt_eq_filter_le o rest hr
    · have hle : p.1 ≤ o := by omega
      simp only [List.dropWhile_cons, hgt, decide_false, Bool.false_eq_true, if_false, List.filter_cons,
        hle, decide_true, if_true]
      congr 1
      symm
      apply List.filter_eq_self.mpr
      intro q hq
      have := hp q hq
      simp only [decide_eq_true_eq]
      omega

end FH
