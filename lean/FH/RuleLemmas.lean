import FH.PlanA64
import FH.PlanX64
/-!
# Lemmas about rule execution used by several properties
-/
namespace FH

theorem umul_eq {R} {a b : Nat} (k : Nat → Out R) (h : a * b < U64) : umul a b k = k (a * b) := by
  simp [umul, h]

theorem imul_eq {R} {a b : Int} (k : Int → Out R)
    (h : -9223372036854775808 ≤ a * b ∧ a * b < 9223372036854775808) : imul a b k = k (a * b) := by
  simp [imul, h]

theorem uaddP_eq {R} {a b : Nat} (s : Site) (k : Nat → Out R) (h : a + b < U64) :
    uaddP a b s k = k (a + b) := by
  simp [uaddP, h]

theorem RuleX64.WF.safe {rule : RuleX64} (h : rule.WF) : rule.Safe := by
  cases rule with
  | offsetSp k => exact h
  | offsetSpAndRestoreBp k b => exact h
  | offsetSpAndPopRegisters k c e => exact h.1
  | _ => trivial

theorem execX64_no_panic_safe (rule : RuleX64) (first : Bool) (regs : RegsX64) (mem : Mem)
    (hr : rule.Safe) (s : Site) : execX64 rule first regs mem ≠ .panic s := by
  intro h
  rcases execX64_out rule first regs mem with
    ⟨k, _, hk, e⟩ | ⟨_, _, _, e⟩ | ⟨_, _, _, e⟩ | ⟨_, _, _, _, _, _, _, _, _, e⟩ <;>
    rw [e] at h
  · cases k <;> cases h
    exact hk hr
  all_goals cases h

theorem execX64_no_panic (rule : RuleX64) (first : Bool) (regs : RegsX64) (mem : Mem)
    (hr : rule.WF) (s : Site) : execX64 rule first regs mem ≠ .panic s :=
  execX64_no_panic_safe rule first regs mem hr.safe s

/-- Facts about a successful x86-64 step. -/
structure FrameX64 (regs regs' : RegsX64) (ra : Nat) (mem : Mem) : Prop where
  ra_ne : ra ≠ 0
  ip_eq : regs'.ip = ra
  sp_ge8 : 8 ≤ regs'.sp
  ra_read : mem (regs'.sp - 8) = some ra
  sp_mono : regs.sp ≤ regs'.sp
  advance : ¬(regs'.sp = regs.sp ∧ ra = regs.ip)
  sp_lt : regs'.sp < U64

theorem sp_of_finish (r : Nat → Nat) (ra newSp newBp : Nat) :
    ({ ip := ra, r := setReg (setReg r RSP newSp) RBP newBp } : RegsX64).sp = newSp := by
  simp [RegsX64.sp, setReg, RSP, RBP]

theorem bp_of_finish (r : Nat → Nat) (ra newSp newBp : Nat) :
    ({ ip := ra, r := setReg (setReg r RSP newSp) RBP newBp } : RegsX64).bp = newBp := by
  simp [RegsX64.bp, setReg, RBP]

/-- A successful step; a rule that follows the frame pointer strictly raises `sp`. -/
theorem execX64_frame_sp {rule : RuleX64} {first : Bool} {regs : RegsX64} {mem : Mem} {ra : Nat}
    {regs' : RegsX64} (h : execX64 rule first regs mem = .ret (.frame ra) regs') :
    FrameX64 regs regs' ra mem ∧ (usesBpX64 rule first = true → regs.sp < regs'.sp) := by
  rcases execX64_out rule first regs mem with
    ⟨k, _, _, e⟩ | ⟨_, _, _, e⟩ | ⟨_, _, _, e⟩ |
    ⟨newSp, r', bp', ra', hk, h1, h2, h3, h4, e⟩ <;> rw [e] at h
  · cases k <;> cases h
  · cases h
  · cases h
  · cases h
    have hsp := sp_of_finish r' ra newSp bp'
    refine ⟨⟨h3, rfl, ?_, ?_, ?_, ?_, ?_⟩, fun hu => ?_⟩ <;> rw [hsp]
    · exact h1
    · exact h2
    · exact hk.1
    · exact h4
    · exact hk.2.1
    · exact hk.2.2 hu

theorem execX64_frame {rule : RuleX64} {first : Bool} {regs : RegsX64} {mem : Mem} {ra : Nat}
    {regs' : RegsX64} (h : execX64 rule first regs mem = .ret (.frame ra) regs') :
    FrameX64 regs regs' ra mem :=
  (execX64_frame_sp h).1

/-- Facts about a successful aarch64 step. -/
structure FrameA64 (first : Bool) (regs regs' : RegsA64) (ra : Nat) : Prop where
  ra_ne : ra ≠ 0
  lr_eq : regs'.lr = ra
  mask_eq : regs'.mask = regs.mask
  stripped : Stripped regs.mask ra
  sp_mono : regs.sp ≤ regs'.sp
  caller_advance : first = false → regs.sp < regs'.sp

theorem execA64_no_panic (rule : RuleA64) (first : Bool) (regs : RegsA64) (mem : Mem)
    (hr : rule.WF) (s : Site) : execA64 rule first regs mem ≠ .panic s := by
  intro h
  rcases execA64_out rule first regs mem with
    ⟨k, hk, e⟩ | ⟨_, _, e⟩ | ⟨_, e⟩ | ⟨_, _, _, _, _, _, e⟩ <;> rw [e] at h
  · cases k <;> cases h
    exact hk hr
  all_goals cases h

theorem execA64_frame {rule : RuleA64} {first : Bool} {regs : RegsA64} {mem : Mem} {ra : Nat}
    {regs' : RegsA64} (h : execA64 rule first regs mem = .ret (.frame ra) regs') :
    FrameA64 first regs regs' ra := by
  rcases execA64_out rule first regs mem with
    ⟨k, _, e⟩ | ⟨_, _, e⟩ | ⟨_, e⟩ | ⟨newLr, newSp, newFp, h1, h2, hs, e⟩ <;>
    rw [e] at h
  · cases k <;> cases h
  · cases h
  · cases h
  · cases h
    -- `sp` is not lowered: by the rule's arithmetic, or else by the frame pointer tests
    have hsp : regs.sp ≤ newSp := by
      rcases hs with hp | ⟨a, hp⟩ | hlt
      · exact hp
      · exact hp.2.2 rfl
      · exact Nat.le_of_lt hlt
    refine ⟨h1, rfl, rfl, strip_stripped _ _, hsp, fun hf => ?_⟩
    have : newSp ≠ regs.sp := fun e => h2 ⟨hf, e⟩
    simp only []
    omega

end FH
