import FH.Cui
/-!
# Lemmas of the instruction analysers and the compact-unwind opcode handlers

What `anaX64` is in terms of its two scans, what ends the forward scan, where the results of the
aarch64 epilogue analysis come from, and how the first frame differs from a caller frame.
-/
namespace FH

/-- The rule the epilogue analysis reports after `n` pops (`finish` in `epilogueScanX64`). -/
def epiRule (n : Nat) (bpOff : Option Nat) : Option RuleX64 :=
  if n = 0 then some .justReturn
  else if n + 1 < U16 then
    match bpOff with
    | some b => some (.offsetSpAndRestoreBp (n + 1) b)
    | none => some (.offsetSp (n + 1))
  else none

/-- What ends the scan: `ret`, or a jump once the frame is known to be gone. -/
theorem epilogueScan_end (prev : Bool) (b : Nat) (rest : List Nat) (n : Nat) (acc : Option Nat)
    (fuel : Nat)
    (hb : b = 0xc3 ∨ (b = 0xeb ∨ b = 0xe9 ∨ b = 0xff) ∧ (n ≠ 0 ∨ prev = true)) :
    epilogueScanX64 prev (b :: rest) n acc (fuel + 1) = epiRule n acc := by
  rcases hb with rfl | ⟨hj, hn⟩
  · rfl
  · have hc3 : b ≠ 0xc3 := by omega
    simp only [epilogueScanX64, epiRule, hc3, hj, if_true, if_false]
    rcases hn with hn | rfl
    · rw [if_pos hn]; rfl
    · simp only [if_true, ite_self]; rfl

theorem not_prologue_of_head (b0 : Nat) (l : List Nat) (h1 : b0 &&& 0xf8 ≠ 0x50)
    (h2 : b0 &&& 0xfe = 0x40 → byteAt l 0 &&& 0xf8 ≠ 0x50)
    (h3 : b0 ≠ 0x83 ∧ b0 ≠ 0x48 ∧ b0 ≠ 0x81) :
    nextExpectedInPrologueX64 (b0 :: l) = false := by
  unfold nextExpectedInPrologueX64
  split
  · rfl
  · simpa [byteAt, h1, h3] using h2

/-- The `prev_is_pop` test of the epilogue analysis on the bytes before pc. -/
def prevIsPopX64 (pre : List Nat) : Bool :=
  (match pre.getLast? with
    | some b => b &&& 0xf8 == 0x58
    | none => false) ||
  (decide (pre.length ≥ 4) && (pre.drop (pre.length - 4)).take 3 == [0x48, 0x83, 0xc4]) ||
  (decide (pre.length ≥ 7) && (pre.drop (pre.length - 7)).take 3 == [0x48, 0x81, 0xc4])

theorem anaX64_of_not_prologue {text : List Nat} {pc : Nat} (hpc : pc ≤ text.length)
    (h : nextExpectedInPrologueX64 (text.drop pc) = false) :
    anaX64 text pc = some (epilogueScanX64 (prevIsPopX64 (text.take pc)) (text.drop pc) 0 none
      ((text.drop pc).length + 1)) := by
  simp only [anaX64, anaPrologueX64, anaEpilogueX64, if_neg (Nat.not_lt.mpr hpc), h, Bool.not_false,
    if_true]
  rfl

theorem anaX64_of_prologue {text : List Nat} {pc : Nat} {r : RuleX64} (hpc : pc ≤ text.length)
    (h : nextExpectedInPrologueX64 (text.drop pc) = true)
    (hs : prologueScanX64 ((text.take pc).length + 1) (text.take pc).reverse 0 = some r) :
    anaX64 text pc = some (some r) := by
  simp only [anaX64, anaPrologueX64, if_neg (Nat.not_lt.mpr hpc), h, hs, Bool.not_true,
    Bool.false_eq_true, if_false]

/-- Every rule of the aarch64 epilogue analysis is `epiFound` of some scan state. -/
theorem anaEpilogueA64_found {text : List Nat} {pc : Nat} {r : RuleA64}
    (h : anaEpilogueA64 text pc = some (some r)) : ∃ s, epiFound s = some r := by
  revert h
  fun_cases anaEpilogueA64 text pc <;> intro h
  all_goals first
    | exact ⟨_, Option.some.inj h⟩
    | cases h
    | (obtain ⟨s, _, hs⟩ := Option.bind_eq_some_iff.mp (Option.some.inj h); exact ⟨s, hs⟩)

/-- The first frame differs from a caller frame only by instruction analysis and the defaults
for the null opcode. -/
theorem cuiUnwindX64_first (op : CuiOpX64) (off : Nat) (fb : Option (List Nat)) (res : CuiRes RuleX64)
    (h : cuiUnwindX64 op true off fb = some res) :
    (∃ b rule, fb = some b ∧ anaX64 b off = some (some rule) ∧ res = .exec rule) ∨
    (op = .null ∧ (res = .exec .useFramePointer ∨ res = .exec .justReturn)) ∨
    (op ≠ .null ∧ (∀ b, fb = some b → anaX64 b off = some none) ∧
      cuiUnwindX64 op false off fb = some res) := by
  revert h
  fun_cases cuiUnwindX64 op true off fb <;> intro h
  case case1 => cases h
  case case2 b rule ha => cases h; exact .inl ⟨b, rule, rfl, ha, rfl⟩
  case case3 hc => cases h; exact .inr (.inl ⟨hc.1, .inl rfl⟩)
  case case4 hc => cases h; exact .inr (.inl ⟨hc, .inr rfl⟩)
  case case5 b ha _ hc _ => exact .inr (.inr ⟨hc, fun _ hb => (by cases hb; exact ha), h⟩)
  case case6 hc => cases h; exact .inr (.inl ⟨hc, .inr rfl⟩)
  case case7 hc _ => exact .inr (.inr ⟨hc, fun _ hb => (nomatch hb), h⟩)
  case case8 hc _ => exact absurd rfl hc

end FH
