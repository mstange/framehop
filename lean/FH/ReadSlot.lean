import FH.RuleA64
/-!
# The pieces rule steps are made of: one stack read, the unchecked multiplications, a checked add

`readSlot` is the read; `mulU`, `mulI`, `orElse` are the arithmetic with the continuation in any
type `P`, so that the read plans of `FH/PlanA64.lean`, `FH/PlanX64.lean` are written with the words
of the model (`umul`, `imul` are `mulU`, `mulI` at `P := Out R` once unfolded). `orElse` comes with
the fact that any function commutes with it; all three with the rule for proving something of
their value.
-/
namespace FH

/-- `read_stack(a).map_err(|_| Error::CouldNotReadStack(a))?` followed by the rest of the step. -/
def readSlot {R : Type} (mem : Mem) (regs : R) (a : Nat) (k : Nat → Out R) : Out R :=
  match mem a with
  | none => .ret (.err (.couldNotReadStack a)) regs
  | some v => k v

theorem readSlot_cases {R : Type} (mem : Mem) (regs : R) (a : Nat) (k : Nat → Out R) :
    (mem a = none ∧ readSlot mem regs a k = .ret (.err (.couldNotReadStack a)) regs) ∨
      ∃ v, mem a = some v ∧ readSlot mem regs a k = k v := by
  unfold readSlot
  cases mem a with
  | none => exact .inl ⟨rfl, rfl⟩
  | some v => exact .inr ⟨v, rfl, rfl⟩

variable {P Q : Type}

/-- `k` of the `u64` product, or `d` where it overflows. -/
def mulU (d : P) (a b : Nat) (k : Nat → P) : P := if a * b < U64 then k (a * b) else d

/-- `k` of the `i64` product, or `d` where it overflows. -/
def mulI (d : P) (a b : Int) (k : Int → P) : P :=
  if -9223372036854775808 ≤ a * b ∧ a * b < 9223372036854775808 then k (a * b) else d

/-- `k` of the value of a checked operation, or `d` where it failed. -/
def orElse (o : Option Nat) (d : P) (k : Nat → P) : P :=
  match o with
  | none => d
  | some x => k x

theorem apply_orElse (f : P → Q) (o : Option Nat) (d : P) (k : Nat → P) :
    f (orElse o d k) = orElse o (f d) fun x => f (k x) := by
  cases o <;> rfl

/-! At a function type the test can be done below the argument. -/

theorem ite_app {A B : Type} (c : Prop) [Decidable c] (f g : A → B) (x : A) :
    (if c then f else g) x = if c then f x else g x := by
  split <;> rfl

theorem orElse_apply {A B : Type} (o : Option Nat) (d : A → B) (k : Nat → A → B) (x : A) :
    orElse o d k x = orElse o (d x) fun y => k y x :=
  apply_orElse (· x) o d k

theorem mulU_of {T : P → Prop} {d : P} {a b : Nat} {k : Nat → P} (hd : ¬ a * b < U64 → T d)
    (hk : T (k (a * b))) : T (mulU d a b k) := by
  unfold mulU; split
  · exact hk
  · exact hd (by assumption)

theorem mulI_of {T : P → Prop} {d : P} {a b : Int} {k : Int → P}
    (hd : ¬(-9223372036854775808 ≤ a * b ∧ a * b < 9223372036854775808) → T d)
    (hk : T (k (a * b))) : T (mulI d a b k) := by
  unfold mulI; split
  · exact hk
  · exact hd (by assumption)

theorem orElse_of {T : P → Prop} {o : Option Nat} {d : P} {k : Nat → P} (hd : T d)
    (hk : ∀ y, o = some y → T (k y)) : T (orElse o d k) := by
  cases o with
  | none => exact hd
  | some y => exact hk y rfl

end FH
