import FH.Basic
/-!
# Register files (`x86_64/unwindregs.rs`, `aarch64/unwindregs.rs`)
-/
namespace FH

/-- x86-64 register numbers in the order of `enum Reg`. -/
def RAX : Nat := 0
def RDX : Nat := 1
def RCX : Nat := 2
def RBX : Nat := 3
def RSI : Nat := 4
def RDI : Nat := 5
def RBP : Nat := 6
def RSP : Nat := 7

/-- `UnwindRegsX86_64`: `ip` plus the 16 general purpose registers, indexed by `Reg as usize`. -/
structure RegsX64 where
  ip : Nat
  r : Nat → Nat

/-- `regs.set(reg, value)` -/
def setReg (r : Nat → Nat) (i v : Nat) : Nat → Nat := fun j => if j = i then v else r j

@[simp] theorem setReg_same (r : Nat → Nat) (i v : Nat) : setReg r i v i = v := by simp [setReg]
@[simp] theorem setReg_other (r : Nat → Nat) (i v j : Nat) (h : j ≠ i) : setReg r i v j = r j := by
  simp [setReg, h]

theorem setReg_self (r : Nat → Nat) (i : Nat) : setReg r i (r i) = r := by
  funext j; simp only [setReg]; split <;> simp [*]

theorem setReg_overwrite (r : Nat → Nat) (i a b : Nat) :
    setReg (setReg r i a) i b = setReg r i b := by
  funext x; simp only [setReg]; split <;> rfl

/-- A value written to `i` is lost once `i` is written again, whatever is written in between. -/
theorem setReg_shadow (r : Nat → Nat) (i j a b v : Nat) :
    setReg (setReg (setReg r i a) j v) i b = setReg (setReg r j v) i b := by
  funext x; simp only [setReg]; split <;> rfl

theorem setReg_comm (r : Nat → Nat) {i j : Nat} (a b : Nat) (h : i ≠ j) :
    setReg (setReg r i a) j b = setReg (setReg r j b) i a := by
  funext x; simp only [setReg]
  by_cases hj : x = j
  · simp [hj, Ne.symm h]
  · simp [hj]

def RegsX64.sp (g : RegsX64) : Nat := g.r RSP
def RegsX64.bp (g : RegsX64) : Nat := g.r RBP

def RegsX64.WF (g : RegsX64) : Prop := g.ip < U64 ∧ ∀ i, g.r i < U64

/-- `UnwindRegsAarch64` -/
structure RegsA64 where
  mask : Nat
  lr : Nat
  sp : Nat
  fp : Nat
  deriving DecidableEq, Repr

/-- `PtrAuthMask::strip_ptr_auth` -/
def strip (mask ptr : Nat) : Nat := ptr &&& mask

/-- `regs.set_lr(lr)` strips. -/
def RegsA64.setLr (g : RegsA64) (lr : Nat) : RegsA64 := { g with lr := strip g.mask lr }

def RegsA64.WF (g : RegsA64) : Prop := g.mask < U64 ∧ g.lr < U64 ∧ g.sp < U64 ∧ g.fp < U64

/-- `x` has no bits outside `mask`. -/
def Stripped (mask x : Nat) : Prop := x &&& mask = x

theorem strip_stripped (mask x : Nat) : Stripped mask (strip mask x) := by
  unfold Stripped strip
  rw [Nat.and_assoc, Nat.and_self]

theorem strip_le (mask x : Nat) : strip mask x ≤ x := Nat.and_le_left

theorem strip_lt {mask x : Nat} (h : x < U64) : strip mask x < U64 :=
  Nat.lt_of_le_of_lt (strip_le mask x) h

end FH
