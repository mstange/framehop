import FH.Modules
/-!
# The module list refines a finite set of non-overlapping ranges (C07, C13)
-/
namespace FH

/-- Registered modules are non-empty ranges that do not overlap, kept in address order. -/
def NonOverlap (mods : List Module) : Prop :=
  mods.Pairwise (fun a b => a.stop ≤ b.start) ∧ ∀ m ∈ mods, m.start < m.stop

def Module.contains (m : Module) (a : Nat) : Prop := m.start ≤ a ∧ a < m.stop

/-- Sorted by range start, starts distinct (what `add_module` maintains for distinct starts). -/
def SortedByStart (mods : List Module) : Prop := mods.Pairwise (fun a b => a.start < b.start)

theorem pairwise_getElem? {α} {R : α → α → Prop} {l : List α} (h : l.Pairwise R) {i j : Nat}
    {a b : α} (hi : l[i]? = some a) (hj : l[j]? = some b) (hij : i < j) : R a b := by
  obtain ⟨hil, rfl⟩ := List.getElem?_eq_some_iff.mp hi
  obtain ⟨hjl, rfl⟩ := List.getElem?_eq_some_iff.mp hj
  exact List.pairwise_iff_getElem.mp h i j hil hjl hij

theorem NonOverlap.sorted {mods : List Module} (h : NonOverlap mods) : SortedByStart mods :=
  List.Pairwise.imp_of_mem (fun ha _ hab => Nat.lt_of_lt_of_le (h.2 _ ha) hab) h.1

theorem lowerBound_le (key : Nat) (mods : List Module) : lowerBound key mods ≤ mods.length := by
  induction mods with
  | nil => simp [lowerBound]
  | cons m rest ih => simp only [lowerBound]; split <;> simp <;> omega

/-- Everything before the reported index starts below the key. -/
theorem lowerBound_before (key : Nat) (mods : List Module) (j : Nat) (m : Module)
    (hj : j < lowerBound key mods) (hm : mods[j]? = some m) : m.start < key := by
  induction mods generalizing j with
  | nil => simp [lowerBound] at hj
  | cons x rest ih =>
    simp only [lowerBound] at hj
    split at hj
    · cases j with
      | zero => simp at hm; subst hm; assumption
      | succ j => simp at hm; exact ih j (by omega) hm
    · omega

/-- The element at the reported index (if any) does not start below the key. -/
theorem lowerBound_at (key : Nat) (mods : List Module) (m : Module)
    (hm : mods[lowerBound key mods]? = some m) : key ≤ m.start := by
  induction mods with
  | nil => simp at hm
  | cons x rest ih =>
    simp only [lowerBound] at hm
    split at hm
    · simp at hm; exact ih hm
    · simp at hm; subst hm; omega

/-- The reported index is the only one with every start before it below the key and the start at
it (if any) not below. No sortedness is needed. -/
theorem lowerBound_eq {key k : Nat} {mods : List Module} (hk : k ≤ mods.length)
    (hlo : ∀ j x, j < k → mods[j]? = some x → x.start < key)
    (hhi : ∀ x, mods[k]? = some x → key ≤ x.start) : lowerBound key mods = k := by
  have hl := lowerBound_le key mods
  apply Nat.le_antisymm
  · apply Nat.le_of_not_lt
    intro hlt
    have := hhi _ (List.getElem?_eq_getElem (by omega))
    have := lowerBound_before key mods k _ hlt (List.getElem?_eq_getElem (by omega))
    omega
  · apply Nat.le_of_not_lt
    intro hlt
    have hx := List.getElem?_eq_getElem (l := mods) (i := lowerBound key mods) (by omega)
    have := lowerBound_at key mods _ hx
    have := hlo _ _ hlt hx
    omega

theorem prevCand_sound (mods : List Module) (a j : Nat) (m : Module)
    (h : prevCand mods (lowerBound a mods) a = some (j, m)) : mods[j]? = some m ∧ m.contains a := by
  unfold prevCand at h
  split at h
  · cases h
  · split at h
    · rename_i p hp
      split at h
      · cases h
      · injection h with h
        injection h with h1 h2
        subst h1 h2
        have := lowerBound_before a mods (lowerBound a mods - 1) p (by omega) hp
        exact ⟨hp, by omega, by omega⟩
    · cases h

theorem findCand_sound (mods : List Module) (a j : Nat)
    (m : Module) (h : findCand mods a = some (j, m)) : mods[j]? = some m ∧ m.contains a := by
  unfold findCand at h
  split at h
  · rename_i x hx
    split at h
    · split at h
      · cases h
      · injection h with h
        injection h with h1 h2
        subst h1 h2
        exact ⟨hx, by omega, by omega⟩
    · exact prevCand_sound mods a j m h
  · exact prevCand_sound mods a j m h

/-- Soundness of `find_module_for_address`: whatever it returns is a registered module
whose range contains the address, with the relative address computed from its base. -/
theorem findModule_sound (mods : List Module) (a j rel : Nat)
    (h : findModule mods a = some (j, rel)) :
    ∃ m, mods[j]? = some m ∧ m.contains a ∧ m.baseAvma ≤ a ∧ rel = a - m.baseAvma ∧ rel < U32 := by
  unfold findModule at h
  split at h
  · cases h
  · rename_i j' m hc
    have ⟨h1, h2⟩ := findCand_sound mods a j' m hc
    split at h
    · cases h
    · split at h
      · injection h with h
        injection h with e1 e2
        subst e1 e2
        exact ⟨m, h1, h2, by omega, rfl, by assumption⟩
      · cases h

/-- In a list sorted by start the module with the greatest start at or below the address decides:
it is returned if the address lies below its end, and otherwise nothing is. -/
theorem findCand_greatest_start (mods : List Module) (hs : SortedByStart mods) (a j : Nat)
    (m : Module) (hm : mods[j]? = some m) (hle : m.start ≤ a)
    (hg : ∀ k x, mods[k]? = some x → x.start ≤ a → k ≤ j) :
    findCand mods a = if m.stop ≤ a then none else some (j, m) := by
  have hjl : j < mods.length := (List.getElem?_eq_some_iff.mp hm).1
  have below : ∀ i x, i < j → mods[i]? = some x → x.start < a := fun i x hi hx =>
    Nat.lt_of_lt_of_le (pairwise_getElem? hs hx hm hi) hle
  unfold findCand
  by_cases heq : m.start = a
  · -- the search reports the module itself
    rw [lowerBound_eq (Nat.le_of_lt hjl) below (fun x hx => by rw [hm] at hx; cases hx; omega)]
    simp only [hm, heq, if_true]
  · -- the module before the insertion point; what stands at the insertion point starts above `a`
    have hlb : lowerBound a mods = j + 1 := by
      refine lowerBound_eq hjl (fun i x hi hx => ?_) (fun x hx => ?_)
      · by_cases e : i = j
        · subst e; rw [hm] at hx; cases hx; omega
        · exact below i x (by omega) hx
      · have := hg (j + 1) x hx; omega
    have hnot : ∀ x, mods[j + 1]? = some x → ¬ x.start = a := fun x hx he => by
      have := hg (j + 1) x hx (by omega); omega
    have hprev : prevCand mods (j + 1) a = if m.stop ≤ a then none else some (j, m) := by
      simp only [prevCand, Nat.add_one_ne_zero, if_false, Nat.add_sub_cancel, hm]
    rw [hlb]
    cases hx : mods[j + 1]? with
    | none => simp only [hprev]
    | some x => simp only [if_neg (hnot x hx), hprev]

/-- In a non-overlapping list the module containing `a` has the greatest start at or below `a`. -/
theorem findCand_complete (mods : List Module) (h : NonOverlap mods) (a j : Nat) (m : Module)
    (hm : mods[j]? = some m) (hc : m.contains a) : findCand mods a = some (j, m) := by
  rw [findCand_greatest_start mods h.sorted a j m hm hc.1, if_neg (Nat.not_le.mpr hc.2)]
  intro k x hx hxa
  apply Nat.le_of_not_lt
  intro hjk
  have := pairwise_getElem? h.1 hm hx hjk
  have := hc.2
  omega

/-- Completeness: the module containing an address is found (subject to the documented
`u32` relative-address representation and a base address not above the address). -/
theorem findModule_complete (mods : List Module) (h : NonOverlap mods) (a j : Nat) (m : Module)
    (hm : mods[j]? = some m) (hc : m.contains a) :
    findModule mods a =
      if a < m.baseAvma then none
      else if a - m.baseAvma < U32 then some (j, a - m.baseAvma) else none := by
  unfold findModule
  rw [findCand_complete mods h a j m hm hc]

/-- An address that no registered module contains is unknown. -/
theorem findModule_none (mods : List Module) (a : Nat)
    (h : ∀ m ∈ mods, ¬ m.contains a) : findModule mods a = none := by
  cases hf : findModule mods a with
  | none => rfl
  | some p =>
    obtain ⟨j, rel⟩ := p
    obtain ⟨m, hm, hc, _⟩ := findModule_sound mods a j rel hf
    exact (h m (List.mem_of_getElem? hm) hc).elim

theorem mem_addModule (mods : List Module) (m x : Module) :
    x ∈ addModule mods m ↔ x = m ∨ x ∈ mods := by
  unfold addModule
  rw [List.mem_insertIdx (lowerBound_le _ _)]

/-- `add_module` keeps the list non-overlapping and adds exactly the new module. -/
theorem addModule_nonOverlap (mods : List Module) (m : Module) (h : NonOverlap mods)
    (hm : m.start < m.stop) (hd : ∀ x ∈ mods, x.stop ≤ m.start ∨ m.stop ≤ x.start) :
    NonOverlap (addModule mods m) ∧ ∀ x, x ∈ addModule mods m ↔ x = m ∨ x ∈ mods := by
  refine ⟨⟨?_, ?_⟩, mem_addModule mods m⟩
  · induction mods with
    | nil => simp [addModule, lowerBound]
    | cons x rest ih =>
      have hx := h.2 x (by simp)
      have hrest : NonOverlap rest := ⟨(List.pairwise_cons.mp h.1).2, fun y hy => h.2 y (by simp [hy])⟩
      have hxr := (List.pairwise_cons.mp h.1).1
      unfold addModule
      simp only [lowerBound]
      split
      · rename_i hlt
        rw [List.insertIdx_succ_cons]
        refine List.pairwise_cons.mpr ⟨?_, ih hrest (fun y hy => hd y (by simp [hy]))⟩
        intro y hy
        rcases (mem_addModule rest m y).mp hy with rfl | hy
        · rcases hd x (by simp) with h1 | h1 <;> omega
        · exact hxr y hy
      · rename_i hge
        rw [List.insertIdx_zero]
        refine List.pairwise_cons.mpr ⟨?_, h.1⟩
        intro y hy
        have hy' := h.2 y hy
        rcases hd y hy with h1 | h1
        · rcases List.mem_cons.mp hy with rfl | hyr
          · omega
          · have := hxr y hyr; omega
        · exact h1
  · intro x hx
    rcases (mem_addModule mods m x).mp hx with rfl | hx
    · exact hm
    · exact h.2 x hx

theorem addModule_perm (mods : List Module) (m : Module) : (addModule mods m).Perm (m :: mods) :=
  List.perm_insertIdx m mods (lowerBound_le _ _)

/-- The binary search reports exactly the index of the module that starts at the key. -/
theorem lowerBound_of_start (mods : List Module) (h : NonOverlap mods) (j : Nat) (m : Module)
    (hm : mods[j]? = some m) : lowerBound m.start mods = j :=
  lowerBound_eq (Nat.le_of_lt (List.getElem?_eq_some_iff.mp hm).1)
    (fun _ _ hi hx => pairwise_getElem? h.sorted hx hm hi)
    (fun x hx => by rw [hm] at hx; cases hx; exact Nat.le_refl _)

theorem removeModule_subset {mods L : List Module} {start : Nat}
    (h : removeModule mods start = some L) : ∀ x ∈ L, x ∈ mods := by
  unfold removeModule at h
  dsimp only at h
  split at h
  · split at h
    · cases h; exact fun x => List.mem_of_mem_eraseIdx
    · cases h
  · cases h

end FH
