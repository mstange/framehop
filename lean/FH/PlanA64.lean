import FH.ReadSlot
/-!
# The read plan of an aarch64 rule step

The addresses a rule step reads never depend on the values it has read. So a step is: compute,
from the rule and the registers alone, a *plan* (which slots are loaded into the new `lr` and `fp`,
in which order, what the new `sp` is, or an outcome that is decided without looking at memory),
then run the plan against the memory. What a property of `execA64` says about memory is proved by
induction over the four constructors of a plan; what it says about the rules is read off one
table, `planA64_ends`.
-/
namespace FH

/-- The address a rule reads as the saved frame pointer, if it reads one. -/
def fpSlotA64 : RuleA64 → Bool → RegsA64 → Option Nat
  | .noOpIfFirstFrameOtherwiseFp, false, g => some g.fp
  | .useFramePointer, _, g => some g.fp
  | .offsetSpAndRestoreFpAndLr _ f _, _, g => caddSigned g.sp (f * 8)
  | .useFramepointerWithOffsets _ f _, _, g => caddSigned g.fp (f * 8)
  | _, _, _ => none

/-- Whether a rule uses the frame pointer as a base address in this kind of frame. -/
def usesFpA64 : RuleA64 → Bool → Bool
  | .useFramePointer, _ => true
  | .useFramepointerWithOffsets _ _ _, _ => true
  | .noOpIfFirstFrameOtherwiseFp, false => true
  | _, _ => false

/-- Outcomes of `execA64` that are decided without reading memory. -/
inductive StopA64 where
  | didNotAdvance | overflow | ends | panic (s : Site)

def StopA64.out (regs : RegsA64) : StopA64 → Out RegsA64
  | .didNotAdvance => .ret (.err .didNotAdvance) regs
  | .overflow => .ret (.err .integerOverflow) regs
  | .ends => .ret .done regs
  | .panic s => .panic s

/-- What a step does once its addresses are computed. -/
inductive PlanA64 where
  | stop (k : StopA64)
  /-- load the new `lr` from `a`, go on -/
  | readLr (a : Nat) (k : PlanA64)
  /-- keep `fp`, finish -/
  | fin (newSp : Nat)
  /-- load the new `fp` from `a`, finish; `chk = some strict`: with the frame pointer tests -/
  | finFp (a : Nat) (chk : Option Bool) (newSp : Nat)

/-- The end of a step that has loaded a new `fp`: `chk = some strict` puts the frame pointer tests
before `finishA64`. -/
def finishFpA64 (first : Bool) (regs : RegsA64) (chk : Option Bool) (newLr newSp newFp : Nat) :
    Out RegsA64 :=
  match chk with
  | none => finishA64 first regs newLr newSp newFp
  | some strict =>
    if newFp = 0 then .ret .done regs
    else if (strict = true ∧ newFp ≤ regs.fp) ∨ newSp ≤ regs.sp then
      .ret (.err .fpMovedBackwards) regs
    else finishA64 first regs newLr newSp newFp

/-- Run a plan; `lr` is the value loaded so far (initially the register). -/
def PlanA64.run (first : Bool) (regs : RegsA64) (mem : Mem) : PlanA64 → Nat → Out RegsA64
  | .stop k, _ => k.out regs
  | .readLr a k, _ => readSlot mem regs a fun newLr => k.run first regs mem newLr
  | .fin newSp, lr => finishA64 first regs lr newSp regs.fp
  | .finFp a chk newSp, lr => readSlot mem regs a (finishFpA64 first regs chk lr newSp)

/-- The frame-record plan of `UseFramePointer` and of the caller half of
`NoOpIfFirstFrameOtherwiseFp`. -/
def fpPlanA64 (fp : Nat) (strict : Bool) : PlanA64 :=
  orElse (cadd fp 16) (.stop .overflow) fun newSp =>
  if fp + 8 < U64 then .readLr (fp + 8) (.finFp fp (some strict) newSp)
  else .stop (.panic .a64FpPlus8)

/-- The plan of `execA64`: its address arithmetic, statement by statement, without the reads. -/
def planA64 (rule : RuleA64) (first : Bool) (regs : RegsA64) : PlanA64 :=
  let sp := regs.sp
  let fp := regs.fp
  let ovf := PlanA64.stop .overflow
  let pU := PlanA64.stop (.panic (.other 1))
  let pI := PlanA64.stop (.panic (.other 2))
  match rule with
  | .noOp => if !first then .stop .didNotAdvance else .fin sp
  | .noOpIfFirstFrameOtherwiseFp => if first then .fin sp else fpPlanA64 fp false
  | .offsetSpIfFirstFrameOtherwiseStackEndsHere k =>
    if !first then .stop .ends
    else mulU pU k 16 fun off => orElse (cadd sp off) ovf fun newSp => .fin newSp
  | .offsetSp k =>
    if !first then .stop .didNotAdvance
    else mulU pU k 16 fun off => orElse (cadd sp off) ovf fun newSp => .fin newSp
  | .offsetSpAndRestoreLr k l =>
    mulU pU k 16 fun off => orElse (cadd sp off) ovf fun newSp =>
    mulI pI l 8 fun lrOff => orElse (caddSigned sp lrOff) ovf fun lrLoc =>
    .readLr lrLoc (.fin newSp)
  | .offsetSpAndRestoreFpAndLr k f l =>
    mulU pU k 16 fun off => orElse (cadd sp off) ovf fun newSp =>
    mulI pI l 8 fun lrOff => orElse (caddSigned sp lrOff) ovf fun lrLoc =>
    .readLr lrLoc <|
    mulI pI f 8 fun fpOff => orElse (caddSigned sp fpOff) ovf fun fpLoc =>
    .finFp fpLoc none newSp
  | .useFramePointer => fpPlanA64 fp true
  | .useFramepointerWithOffsets k f l =>
    mulU pU k 8 fun off => orElse (cadd fp off) ovf fun newSp =>
    mulI pI l 8 fun lrOff => orElse (caddSigned fp lrOff) ovf fun lrLoc =>
    .readLr lrLoc <|
    mulI pI f 8 fun fpOff => orElse (caddSigned fp fpOff) ovf fun fpLoc =>
    .finFp fpLoc (some true) newSp

variable {first : Bool} {regs : RegsA64} {mem : Mem}

theorem run_fpPlanA64 (strict : Bool) (lr : Nat) :
    (fpPlanA64 regs.fp strict).run first regs mem lr =
      orElse (cadd regs.fp 16) (.ret (.err .integerOverflow) regs) fun newSp =>
        uaddP regs.fp 8 .a64FpPlus8 fun lrLoc => readSlot mem regs lrLoc fun newLr =>
          (PlanA64.finFp regs.fp (some strict) newSp).run first regs mem newLr := by
  unfold fpPlanA64 uaddP
  cases cadd regs.fp 16 with
  | none => rfl
  | some newSp => simp only [orElse]; split <;> rfl

/-- **`execA64` runs its plan.** -/
theorem execA64_eq_run (rule : RuleA64) (first : Bool) (regs : RegsA64) (mem : Mem) :
    execA64 rule first regs mem = (planA64 rule first regs).run first regs mem regs.lr := by
  cases rule <;>
    simp only [execA64, planA64, umul, imul, mulU, mulI, apply_ite (PlanA64.run first regs mem),
      ite_app, apply_orElse (PlanA64.run first regs mem), orElse_apply, run_fpPlanA64,
      PlanA64.run, readSlot, finishFpA64, StopA64.out, true_and, Bool.false_eq_true, false_and,
      false_or]
  -- the two sides now differ only in which auxiliary matcher tests an `Option`, and `rfl` does
  -- not unfold a matcher applied to a variable
  all_goals (delta execA64.match_1 readSlot.match_1 orElse; rfl)

/-- `P` holds of the node a plan ends in (the plan below its `readLr`s). -/
def PlanA64.Ends (P : PlanA64 → Prop) : PlanA64 → Prop
  | .readLr _ k => k.Ends P
  | p => P p

variable {P : PlanA64 → Prop}

/-- What the plan of `rule` may end in. -/
def EndOK (rule : RuleA64) (first : Bool) (regs : RegsA64) : PlanA64 → Prop
  | .stop .overflow => True
  | .stop (.panic _) => ¬ rule.WF
  | .stop .didNotAdvance => first = false
  | .stop .ends => (∃ k, rule = .offsetSpIfFirstFrameOtherwiseStackEndsHere k) ∧ first = false
  | .fin n => regs.sp ≤ n
  | .finFp a chk n => fpSlotA64 rule first regs = some a ∧
      (chk = some true → usesFpA64 rule first = true) ∧ (chk = none → regs.sp ≤ n)
  | .readLr _ _ => False

theorem ends_fpPlanA64 {fp : Nat} {strict : Bool} (ho : P (.stop .overflow))
    (h : ∀ n, P (.finFp fp (some strict) n)) : (fpPlanA64 fp strict).Ends P := by
  refine orElse_of ho fun y hy => ?_
  have := cadd_some hy
  rw [if_pos (by omega)]
  exact h y

/-- **The table of the rules**: how each can stop early, which slot it loads `fp` from and whether
it compares it, and that `sp` is not lowered where it is not compared either. -/
theorem planA64_ends (rule : RuleA64) (first : Bool) (regs : RegsA64) :
    (planA64 rule first regs).Ends (EndOK rule first regs) := by
  have u16 : ∀ {k c : Nat}, c ≤ 16 → ¬ k * c < U64 → ¬ k < U16 := by
    intro k c hc hn; unfold U16; unfold U64 at hn
    have : k * c ≤ k * 16 := Nat.mul_le_mul_left k hc
    omega
  have i16 : ∀ {l : Int}, ¬(-9223372036854775808 ≤ l * 8 ∧ l * 8 < 9223372036854775808) →
      ¬ InI16 l := fun hn hl => hn (by unfold InI16 at hl; omega)
  have le : ∀ {x off y : Nat}, cadd x off = some y → x ≤ y := fun h => by
    have := cadd_some h; omega
  cases rule with
  | noOp =>
    cases first with
    | false => exact rfl
    | true => exact Nat.le_refl _
  | offsetSp k =>
    cases first with
    | false => exact rfl
    | true =>
      simp only [planA64, Bool.not_true, Bool.false_eq_true, if_false]
      refine mulU_of (fun h w => u16 (Nat.le_refl _) h w) (orElse_of trivial fun y hy => le hy)
  | offsetSpIfFirstFrameOtherwiseStackEndsHere k =>
    cases first with
    | false => exact ⟨⟨k, rfl⟩, rfl⟩
    | true =>
      simp only [planA64, Bool.not_true, Bool.false_eq_true, if_false]
      refine mulU_of (fun h w => u16 (Nat.le_refl _) h w) (orElse_of trivial fun y hy => le hy)
  | noOpIfFirstFrameOtherwiseFp =>
    cases first with
    | true => exact Nat.le_refl _
    | false => exact ends_fpPlanA64 trivial fun n => ⟨rfl, fun _ => rfl, fun h => by cases h⟩
  | useFramePointer =>
    exact ends_fpPlanA64 trivial fun n => ⟨rfl, fun _ => rfl, fun h => by cases h⟩
  | offsetSpAndRestoreLr k l =>
    simp only [planA64]
    refine mulU_of (fun h w => u16 (Nat.le_refl _) h w.1) (orElse_of trivial fun y hy => ?_)
    exact mulI_of (fun h w => i16 h w.2) (orElse_of trivial fun _ _ => le hy)
  | offsetSpAndRestoreFpAndLr k f l =>
    simp only [planA64]
    refine mulU_of (fun h w => u16 (Nat.le_refl _) h w.1) (orElse_of trivial fun y hy => ?_)
    refine mulI_of (fun h w => i16 h w.2.2) (orElse_of trivial fun _ _ => ?_)
    exact mulI_of (fun h w => i16 h w.2.1) (orElse_of trivial fun a ha =>
      ⟨ha, (fun h => by cases h), fun _ => le hy⟩)
  | useFramepointerWithOffsets k f l =>
    simp only [planA64]
    refine mulU_of (fun h w => u16 (by omega) h w.1) (orElse_of trivial fun y hy => ?_)
    refine mulI_of (fun h w => i16 h w.2.2) (orElse_of trivial fun _ _ => ?_)
    exact mulI_of (fun h w => i16 h w.2.1) (orElse_of trivial fun a ha =>
      ⟨ha, fun _ => rfl, fun h => by cases h⟩)

/-! ## Every outcome of a step -/

/-- What `finishA64` can return. -/
theorem finishA64_cases (first : Bool) (regs : RegsA64) (newLr newSp newFp : Nat) :
    finishA64 first regs newLr newSp newFp = .ret (.err .didNotAdvance) regs ∨
    (strip regs.mask newLr = 0 ∧ finishA64 first regs newLr newSp newFp = .ret .done regs) ∨
    (strip regs.mask newLr ≠ 0 ∧ ¬(first = false ∧ newSp = regs.sp) ∧
      finishA64 first regs newLr newSp newFp = .ret (.frame (strip regs.mask newLr))
        { (regs.setLr newLr) with sp := newSp, fp := newFp }) := by
  unfold finishA64
  simp only []
  split
  · exact .inr (.inl ⟨by assumption, rfl⟩)
  · split
    · exact .inl rfl
    · rename_i h1 h2
      exact .inr (.inr ⟨h1, fun ⟨a, b⟩ => h2 ⟨by simp [a], b⟩, rfl⟩)

theorem PlanA64.Ends.imp {P Q : PlanA64 → Prop} (h : ∀ q, P q → Q q) :
    ∀ {p : PlanA64}, p.Ends P → p.Ends Q
  | .readLr _ k, hp => Ends.imp h (p := k) hp
  | .stop _, hp => h _ hp
  | .fin _, hp => h _ hp
  | .finFp _ _ _, hp => h _ hp

/-- What "the return address is null" means on aarch64: the value that was in `lr` or was
loaded from the stack is null once the pointer-authentication bits are stripped. -/
def NullRaA64 (regs : RegsA64) (mem : Mem) : Prop :=
  strip regs.mask regs.lr = 0 ∨ ∃ a v, mem a = some v ∧ strip regs.mask v = 0

/-- The outcomes of a step: it stops early; or fails on a frame pointer test, for want of
progress, or names a slot it could not read; or ends the walk, at a null tested `fp` or a null
return address; or yields a frame, with `sp` as the plan's last node says or else raised. `P` is
whatever is known of that node. -/
abbrev OutcomeA64 (P : PlanA64 → Prop) (first : Bool) (regs : RegsA64) (mem : Mem)
    (o : Out RegsA64) : Prop :=
  (∃ k, P (.stop k) ∧ o = k.out regs) ∨
  (∃ e, (e = .fpMovedBackwards ∨ e = .didNotAdvance ∨
      ∃ a, e = .couldNotReadStack a ∧ mem a = none) ∧ o = .ret (.err e) regs) ∨
  (((∃ a strict n, P (.finFp a (some strict) n) ∧ mem a = some 0) ∨ NullRaA64 regs mem) ∧
    o = .ret .done regs) ∨
  ∃ newLr newSp newFp, strip regs.mask newLr ≠ 0 ∧ ¬(first = false ∧ newSp = regs.sp) ∧
    (P (.fin newSp) ∨ (∃ a, P (.finFp a none newSp)) ∨ regs.sp < newSp) ∧
    o = .ret (.frame (strip regs.mask newLr)) { (regs.setLr newLr) with sp := newSp, fp := newFp }

theorem finishFpA64_outcome {P : PlanA64 → Prop} {chk : Option Bool} {lr newSp newFp : Nat}
    (hl : lr = regs.lr ∨ ∃ a, mem a = some lr)
    (hf : chk = none ∧ P (.fin newSp) ∨ ∃ a, P (.finFp a chk newSp) ∧ mem a = some newFp) :
    OutcomeA64 P first regs mem (finishFpA64 first regs chk lr newSp newFp) := by
  have fin : (P (.fin newSp) ∨ (∃ a, P (.finFp a none newSp)) ∨ regs.sp < newSp) →
      OutcomeA64 P first regs mem (finishA64 first regs lr newSp newFp) := by
    intro hs
    rcases finishA64_cases first regs lr newSp newFp with h | ⟨hz, h⟩ | ⟨h1, h2, h⟩
    · exact .inr (.inl ⟨_, .inr (.inl rfl), h⟩)
    · refine .inr (.inr (.inl ⟨.inr ?_, h⟩))
      rcases hl with rfl | ⟨a, ha⟩
      · exact .inl hz
      · exact .inr ⟨a, lr, ha, hz⟩
    · exact .inr (.inr (.inr ⟨lr, newSp, newFp, h1, h2, hs, h⟩))
  unfold finishFpA64
  cases chk with
  | none => exact fin (hf.elim (fun h => .inl h.2) fun ⟨a, hp, _⟩ => .inr (.inl ⟨a, hp⟩))
  | some strict =>
    -- the tested `fp` was loaded from the slot of the last node
    obtain ⟨a, hp, hm⟩ := hf.resolve_left fun h => nomatch h.1
    simp only []
    split
    · rename_i h0
      exact .inr (.inr (.inl ⟨.inl ⟨a, strict, newSp, hp, h0 ▸ hm⟩, rfl⟩))
    · split
      · exact .inr (.inl ⟨_, .inl rfl, rfl⟩)
      · exact fin (.inr (.inr (by omega)))

theorem PlanA64.run_ends {P : PlanA64 → Prop} : ∀ (p : PlanA64) (lr : Nat),
    (lr = regs.lr ∨ ∃ a, mem a = some lr) → p.Ends P →
    OutcomeA64 P first regs mem (p.run first regs mem lr)
  | .stop k, _, _, hp => .inl ⟨k, hp, rfl⟩
  | .fin _, _, hl, hp => finishFpA64_outcome (chk := none) hl (.inl ⟨rfl, hp⟩)
  | .readLr a k, _, _, hp => by
    rcases readSlot_cases mem regs a fun v => k.run first regs mem v with h | ⟨v, hv, e⟩
    · exact .inr (.inl ⟨_, .inr (.inr ⟨a, rfl, h.1⟩), h.2⟩)
    · simp only [PlanA64.run, e]
      exact k.run_ends v (.inr ⟨a, hv⟩) hp
  | .finFp a chk newSp, lr, hl, hp => by
    rcases readSlot_cases mem regs a (finishFpA64 first regs chk lr newSp) with h | ⟨v, hv, e⟩
    · exact .inr (.inl ⟨_, .inr (.inr ⟨a, rfl, h.1⟩), h.2⟩)
    · simp only [PlanA64.run, e]
      exact finishFpA64_outcome hl (.inr ⟨a, hp, hv⟩)

/-- **The outcomes of `execA64`**, with what `EndOK` says of the rule in each case. -/
theorem execA64_out (rule : RuleA64) (first : Bool) (regs : RegsA64) (mem : Mem) :
    OutcomeA64 (EndOK rule first regs) first regs mem (execA64 rule first regs mem) := by
  rw [execA64_eq_run]
  exact PlanA64.run_ends _ _ (.inl rfl) (planA64_ends rule first regs)

end FH
