import FH.Dwarf
/-!
# What each rule does when its arithmetic fits and its slots are readable

One equation per rule: under those hypotheses `execX64` / `execA64` is the common tail
(`finishX64` / `finishA64`) on the new stack pointer and the restored registers. A slot is given
by the location the rule's checked addition yields and the word memory holds there.
`finishX64_ok` / `finishA64_ok` then say when the tail commits a frame.
-/
namespace FH

/-- The register file after a successful x86-64 step. -/
def afterX64 (regs : RegsX64) (ra sp' bp' : Nat) : RegsX64 :=
  { ip := ra, r := setReg (setReg regs.r RSP sp') RBP bp' }

/-- The register file after a successful aarch64 step. -/
def afterA64 (regs : RegsA64) (raRaw sp' fp' : Nat) : RegsA64 :=
  { mask := regs.mask, lr := strip regs.mask raRaw, sp := sp', fp := fp' }

/-- The generic DWARF path commits `rbp` before `rsp`. -/
theorem afterX64_eq (regs : RegsX64) (ra sp' bp' : Nat) :
    ({ ip := ra, r := setReg (setReg regs.r RBP bp') RSP sp' } : RegsX64) = afterX64 regs ra sp' bp' := by
  rw [afterX64, setReg_comm _ _ _ (by decide : RBP ≠ RSP)]

/-! ## Checked arithmetic that fits -/

/-- The value fits `u64` (cf. `InI64`). -/
abbrev InU64 (a : Int) : Prop := 0 ≤ a ∧ a < 18446744073709551616

theorem cadd_eq_some {a b : Nat} (h : a + b < U64) : cadd a b = some (a + b) := by
  simp [cadd, h]

theorem caddSigned_toNat {a : Nat} {b : Int} (ha : a < U64) (hb : InI64 b)
    (h : InU64 ((a : Int) + b)) : caddSigned a b = some ((a : Int) + b).toNat := by
  rw [caddSigned_eq_spec a b ha hb.1 hb.2, caddSignedSpec, if_pos h]

/-- The address `base + off` with `off = g·k`, as the rules compute it from the scaled field `k`. -/
theorem scaled_offset {base k g : Nat} {off : Int} (hk : (g : Int) * k = off)
    (h : InU64 ((base : Int) + off)) :
    base + k * g < U64 ∧ base + k * g = ((base : Int) + off).toNat := by
  subst hk
  have e : (base : Int) + (g : Int) * k = ((base + k * g : Nat) : Int) := by
    rw [Nat.mul_comm]; simp
  rw [e] at h ⊢
  exact ⟨Int.ofNat_lt.mp h.2, rfl⟩

/-! ## The common tails -/

theorem finishX64_ok {regs : RegsX64} {sp newSp newBp ra : Nat} {mem : Mem} (h8 : 8 ≤ newSp)
    (hr : mem (newSp - 8) = some ra) (h0 : ra ≠ 0) (hadv : ¬(newSp = sp ∧ ra = regs.ip)) :
    finishX64 regs sp newSp newBp mem = .ret (.frame ra) (afterX64 regs ra newSp newBp) := by
  unfold finishX64 afterX64
  have : ¬ newSp < 8 := by omega
  simp [this, hr, h0, hadv]

theorem finishA64_ok {first : Bool} {regs : RegsA64} {newLr newSp newFp : Nat}
    (h0 : strip regs.mask newLr ≠ 0) (hadv : first = false → newSp ≠ regs.sp) :
    finishA64 first regs newLr newSp newFp =
      .ret (.frame (strip regs.mask newLr)) (afterA64 regs newLr newSp newFp) := by
  unfold finishA64 afterA64 RegsA64.setLr
  have h2 : ¬ ((!first) = true ∧ newSp = regs.sp) := by
    intro ⟨a, b⟩
    exact hadv (by simpa using a) b
  simp only [h0, h2, if_false]

/-! ## x86-64 -/

theorem execX64_justReturn {first : Bool} {regs : RegsX64} {mem : Mem} (hfit : regs.sp + 8 < U64) :
    execX64 .justReturn first regs mem = finishX64 regs regs.sp (regs.sp + 8) regs.bp mem := by
  simp only [execX64, cadd_eq_some hfit]

theorem execX64_offsetSp {k : Nat} {first : Bool} {regs : RegsX64} {mem : Mem}
    (hk : regs.sp + k * 8 < U64) :
    execX64 (.offsetSp k) first regs mem = finishX64 regs regs.sp (regs.sp + k * 8) regs.bp mem := by
  have : k * 8 < U64 := by omega
  simp only [execX64, umul, this, if_true, cadd_eq_some hk]

theorem execX64_offsetSpAndRestoreBp {k : Nat} {b : Int} {first : Bool} {regs : RegsX64} {mem : Mem}
    {loc v : Nat} (hk : regs.sp + k * 8 < U64) (hb : InI64 (b * 8))
    (hl : caddSigned regs.sp (b * 8) = some loc) (hm : mem loc = some v) :
    execX64 (.offsetSpAndRestoreBp k b) first regs mem =
      finishX64 regs regs.sp (regs.sp + k * 8) v mem := by
  have h1 : k * 8 < U64 := by omega
  simp only [execX64, umul, h1, if_true, cadd_eq_some hk, imul, hb.1, hb.2, and_self, hl, hm]

theorem fpStepX64_eq {regs : RegsX64} {mem : Mem} {v : Nat} (h0 : regs.bp ≠ 0)
    (hlt : regs.bp + 16 < U64) (hsp : regs.sp < regs.bp + 16) (hm : mem regs.bp = some v) :
    fpStepX64 regs mem = finishX64 regs regs.sp (regs.bp + 16) v mem := by
  simp only [fpStepX64, h0, if_false, cadd_eq_some hlt, Nat.not_le.mpr hsp, hm]

theorem execX64_popRegisters {k count enc : Nat} {first : Bool} {regs : RegsX64} {mem : Mem}
    {sp2 : Nat} {r2 : Nat → Nat} (hk : regs.sp + k * 8 < U64)
    (hp : popLoop mem (decodeRegs count enc) (regs.sp + k * 8) regs.r = .ok sp2 r2)
    (h2 : sp2 + 8 < U64) :
    execX64 (.offsetSpAndPopRegisters k count enc) first regs mem =
      finishX64 { regs with r := r2 } regs.sp (sp2 + 8) (r2 RBP) mem := by
  have : k * 8 < U64 := by omega
  simp only [execX64, umul, this, if_true, cadd_eq_some hk, hp, cadd_eq_some h2]

/-! The same three rules carried through to the committed frame, for a stack that grows (`0 < k`)
and a saved `rbp` below the new stack pointer (`q < k`). -/

theorem execX64_justReturn_frame {first : Bool} {regs : RegsX64} {mem : Mem} {ra : Nat}
    (hfit : regs.sp + 8 < U64) (hra : mem regs.sp = some ra) (hra0 : ra ≠ 0) :
    execX64 .justReturn first regs mem = .ret (.frame ra) (afterX64 regs ra (regs.sp + 8) regs.bp) := by
  rw [execX64_justReturn hfit]
  exact finishX64_ok (by omega) (by simpa using hra) hra0 (by omega)

theorem execX64_offsetSp_frame {k newSp : Nat} {first : Bool} {regs : RegsX64} {mem : Mem} {ra : Nat}
    (hsp : newSp = regs.sp + k * 8) (hk : 0 < k) (hfit : newSp < U64)
    (hra : mem (newSp - 8) = some ra) (hra0 : ra ≠ 0) :
    execX64 (.offsetSp k) first regs mem = .ret (.frame ra) (afterX64 regs ra newSp regs.bp) := by
  subst hsp
  rw [execX64_offsetSp hfit]
  exact finishX64_ok (by omega) hra hra0 (by omega)

theorem execX64_offsetSpAndRestoreBp_frame {k q newSp loc b : Nat} {first : Bool} {regs : RegsX64}
    {mem : Mem} {ra : Nat} (hsp : newSp = regs.sp + k * 8) (hk : 0 < k) (hfit : newSp < U64)
    (hloc : loc = regs.sp + q * 8) (hq : q < k) (hk16 : k < U16) (hb : mem loc = some b)
    (hra : mem (newSp - 8) = some ra) (hra0 : ra ≠ 0) :
    execX64 (.offsetSpAndRestoreBp k q) first regs mem =
      .ret (.frame ra) (afterX64 regs ra newSp b) := by
  subst hsp hloc
  unfold U16 at hk16
  have hl : caddSigned regs.sp ((q : Int) * 8) = some (regs.sp + q * 8) := by
    rw [caddSigned_toNat (by omega) ⟨by omega, by omega⟩ ⟨by omega, by unfold U64 at hfit; omega⟩]
    congr 1
  rw [execX64_offsetSpAndRestoreBp hfit ⟨by omega, by omega⟩ hl hb]
  exact finishX64_ok (by omega) hra hra0 (by omega)

/-! ## aarch64 -/

theorem execA64_offsetSp {k : Nat} {regs : RegsA64} {mem : Mem} (hk : regs.sp + k * 16 < U64) :
    execA64 (.offsetSp k) true regs mem = finishA64 true regs regs.lr (regs.sp + k * 16) regs.fp := by
  have : k * 16 < U64 := by omega
  simp only [execA64, Bool.not_true, Bool.false_eq_true, if_false, umul, this, if_true,
    cadd_eq_some hk]

theorem execA64_offsetSpAndRestoreLr {k : Nat} {l : Int} {first : Bool} {regs : RegsA64} {mem : Mem}
    {loc v : Nat} (hk : regs.sp + k * 16 < U64) (hl : InI64 (l * 8))
    (hloc : caddSigned regs.sp (l * 8) = some loc) (hm : mem loc = some v) :
    execA64 (.offsetSpAndRestoreLr k l) first regs mem =
      finishA64 first regs v (regs.sp + k * 16) regs.fp := by
  have h1 : k * 16 < U64 := by omega
  simp only [execA64, umul, h1, if_true, cadd_eq_some hk, imul, hl.1, hl.2, and_self, hloc, hm]

theorem execA64_offsetSpAndRestoreFpAndLr {k : Nat} {f l : Int} {first : Bool} {regs : RegsA64}
    {mem : Mem} {loc v floc fv : Nat} (hk : regs.sp + k * 16 < U64) (hl : InI64 (l * 8))
    (hf : InI64 (f * 8)) (hloc : caddSigned regs.sp (l * 8) = some loc) (hm : mem loc = some v)
    (hfloc : caddSigned regs.sp (f * 8) = some floc) (hfm : mem floc = some fv) :
    execA64 (.offsetSpAndRestoreFpAndLr k f l) first regs mem =
      finishA64 first regs v (regs.sp + k * 16) fv := by
  have h1 : k * 16 < U64 := by omega
  simp only [execA64, umul, h1, if_true, cadd_eq_some hk, imul, hl.1, hl.2, hf.1, hf.2, and_self,
    hloc, hm, hfloc, hfm]

/-- The frame record at `fp`: return address at `fp + 8`, caller's frame pointer `fv` at `fp`,
accepted when `fv` is not null and lies above `fp`, and the new stack pointer above the old. -/
theorem execA64_useFramePointer {first : Bool} {regs : RegsA64} {mem : Mem} {v fv : Nat}
    (hlt : regs.fp + 16 < U64) (hm : mem (regs.fp + 8) = some v) (hfm : mem regs.fp = some fv)
    (h0 : fv ≠ 0) (hfp : regs.fp < fv) (hsp : regs.sp < regs.fp + 16) :
    execA64 .useFramePointer first regs mem = finishA64 first regs v (regs.fp + 16) fv := by
  have h1 : ¬(fv ≤ regs.fp ∨ regs.fp + 16 ≤ regs.sp) := by omega
  have h2 : regs.fp + 8 < U64 := by omega
  simp only [execA64, cadd_eq_some hlt, uaddP, h2, if_true, hm, hfm, h0, h1, if_false]

/-- In caller frames `NoOpIfFirstFrameOtherwiseFp` reads the same frame record, without asking that
the restored frame pointer lies above the current one. -/
theorem execA64_noOpOtherwiseFp_caller {regs : RegsA64} {mem : Mem} {v fv : Nat}
    (hlt : regs.fp + 16 < U64) (hm : mem (regs.fp + 8) = some v) (hfm : mem regs.fp = some fv)
    (h0 : fv ≠ 0) (hsp : regs.sp < regs.fp + 16) :
    execA64 .noOpIfFirstFrameOtherwiseFp false regs mem =
      finishA64 false regs v (regs.fp + 16) fv := by
  have h1 : ¬(regs.fp + 16 ≤ regs.sp) := by omega
  have h2 : regs.fp + 8 < U64 := by omega
  simp only [execA64, Bool.false_eq_true, if_false, cadd_eq_some hlt, uaddP, h2, if_true, hm, hfm,
    h0, h1]

theorem execA64_useFramepointerWithOffsets {k : Nat} {f l : Int} {first : Bool} {regs : RegsA64}
    {mem : Mem} {loc v floc fv : Nat} (hk : regs.fp + k * 8 < U64) (hl : InI64 (l * 8))
    (hf : InI64 (f * 8)) (hloc : caddSigned regs.fp (l * 8) = some loc) (hm : mem loc = some v)
    (hfloc : caddSigned regs.fp (f * 8) = some floc) (hfm : mem floc = some fv)
    (h0 : fv ≠ 0) (hfp : regs.fp < fv) (hsp : regs.sp < regs.fp + k * 8) :
    execA64 (.useFramepointerWithOffsets k f l) first regs mem =
      finishA64 first regs v (regs.fp + k * 8) fv := by
  have h1 : ¬(fv ≤ regs.fp ∨ regs.fp + k * 8 ≤ regs.sp) := by omega
  have hk' : k * 8 < U64 := by omega
  simp only [execA64, umul, hk', if_true, cadd_eq_some hk, imul, hl.1, hl.2, hf.1, hf.2, and_self,
    hloc, hm, hfloc, hfm, h0, h1, if_false]

end FH
