import FH.RuleSteps
/-!
# DWARF semantics of one row (specification, over mathematical integers) and its relation
to framehop's two execution paths (C05)
-/
namespace FH

/-- What DWARF prescribes for a row whose CFA is register+offset and whose return-address /
frame-pointer rules are `undefined`, `same value` or `offset(n)`. -/
inductive SpecRes where
  | endOfStack                          -- return address rule is `undefined`
  | unreadable (a : Int)                -- a slot named by the row cannot be read
  | step (ra : Nat) (cfa : Int) (fp : Nat)
  | outside                             -- the row is outside the domain of C05
  deriving Repr

/-- Read a 64-bit word at a mathematical address. -/
def readAt (mem : Mem) (a : Int) : Option Nat :=
  if 0 ≤ a ∧ a < 18446744073709551616 then mem a.toNat else none

/-- Value of a register after the step according to its rule, `none` = slot unreadable. -/
def specReg (mem : Mem) (cfa : Int) (cur : Nat) : RegRule → Option (Option Nat)
  | .undefined => some (some cur)     -- framehop keeps the value of a register it cannot recover
  | .sameValue => some (some cur)
  | .offset n => some (readAt mem (cfa + n))
  | _ => none

/-- The DWARF meaning of `row` for a thread whose CFA base register holds `base`, whose
return-address register holds `curRa` and whose frame pointer holds `curFp`. -/
def dwarfSpec (row : Row) (spVal fpVal curRa : Nat) (mem : Mem) : SpecRes :=
  match row.cfa with
  | .regOff .sp off => go ((spVal : Int) + off)
  | .regOff .fp off => go ((fpVal : Int) + off)
  -- the same value computed by a DWARF expression (`DW_OP_breg<r> off`)
  | .exprRegOff .sp off => go ((spVal : Int) + off)
  | .exprRegOff .fp off => go ((fpVal : Int) + off)
  | _ => .outside
where
  go (cfa : Int) : SpecRes :=
    match row.ra with
    | .undefined => .endOfStack
    | .sameValue =>
      match specReg mem cfa fpVal row.fp with
      | none => .outside
      | some none => .unreadable 0
      | some (some fp') => .step curRa cfa fp'
    | .offset n =>
      match readAt mem (cfa + n) with
      | none => .unreadable (cfa + n)
      | some ra =>
        match specReg mem cfa fpVal row.fp with
        | none => .outside
        | some none => .unreadable 0
        | some (some fp') => .step ra cfa fp'
    | _ => .outside

theorem tdiv_exact {x g : Int} (h : x.tmod g = 0) : g * x.tdiv g = x := by
  have := Int.mul_tdiv_add_tmod x g
  rw [h] at this
  simpa using this

theorem exactDivU16_some {x : Int} {g : Int} {k : Nat} (h : exactDivU16 x g = some k) :
    g * (k : Int) = x ∧ k < 65536 := by
  unfold exactDivU16 at h
  split at h
  · cases h
  · rename_i hm
    split at h
    · rename_i hr
      injection h with h
      have e := tdiv_exact (Decidable.of_not_not hm)
      have : ((x.tdiv g).toNat : Int) = x.tdiv g := Int.toNat_of_nonneg hr.1
      subst h
      refine ⟨by rw [this]; exact e, by omega⟩
    · cases h

theorem exactSumDiv8I16_some {a b s : Int} (h : exactSumDiv8I16 a b = some s) :
    8 * s = a + b ∧ -32768 ≤ s ∧ s < 32768 := by
  unfold exactSumDiv8I16 caddI64 at h
  split at h
  · cases h
  · rename_i s' hs
    split at hs
    · injection hs with hs
      subst hs
      split at h
      · cases h
      · rename_i hm
        split at h
        · injection h with h
          subst h
          exact ⟨tdiv_exact (Decidable.of_not_not hm), by omega, by omega⟩
        · cases h
    · cases hs

/-! ## The specification, in relational form -/

/-- The CFA of a row as a mathematical integer, from the value of its base register. -/
def specCfa (spVal fpVal : Nat) : CfaRule → Option Int
  | .regOff .sp off | .exprRegOff .sp off => some ((spVal : Int) + off)
  | .regOff .fp off | .exprRegOff .fp off => some ((fpVal : Int) + off)
  | _ => none

theorem dwarfSpec_eq (row : Row) (spVal fpVal curRa : Nat) (mem : Mem) :
    dwarfSpec row spVal fpVal curRa mem =
      match specCfa spVal fpVal row.cfa with
      | some cfa => dwarfSpec.go row fpVal curRa mem cfa
      | none => .outside := by
  rcases row with ⟨(⟨(_|_|_|_), _⟩ | _ | ⟨(_|_|_|_), _⟩), _, _⟩ <;> rfl

/-- A step is prescribed exactly when the CFA is defined, the return address is not declared
undefined and both register rules have a value. -/
theorem dwarfSpec_step {row : Row} {spVal fpVal curRa : Nat} {mem : Mem} {ra : Nat} {cfa : Int}
    {fp' : Nat} (h : dwarfSpec row spVal fpVal curRa mem = .step ra cfa fp') :
    specCfa spVal fpVal row.cfa = some cfa ∧ row.ra ≠ .undefined ∧
      specReg mem cfa curRa row.ra = some (some ra) ∧
      specReg mem cfa fpVal row.fp = some (some fp') := by
  rw [dwarfSpec_eq] at h
  cases hc : specCfa spVal fpVal row.cfa with
  | none => simp [hc] at h
  | some c =>
    simp only [hc, dwarfSpec.go] at h
    -- only `same value` and `offset n` for the return address can give a step
    cases hr : row.ra <;> simp only [hr, reduceCtorEq] at h
    · split at h <;> cases h
      exact ⟨rfl, nofun, rfl, ‹_›⟩
    · split at h <;> try cases h
      rename_i hrd
      split at h <;> cases h
      exact ⟨rfl, nofun, congrArg some hrd, ‹_›⟩

theorem regRuleToCfaOffset_some {r : RegRule} {b : Int} (h : regRuleToCfaOffset r = .some b) :
    r = .offset b := by
  cases r <;> simp only [regRuleToCfaOffset, reduceCtorEq] at h
  cases h; rfl

theorem specReg_of_none {r : RegRule} (h : regRuleToCfaOffset r = .none) (mem : Mem) (cfa : Int)
    (cur : Nat) : specReg mem cfa cur r = some (some cur) := by
  cases r <;> first | rfl | cases h

/-! ## Slots: mathematical addresses against the code's checked arithmetic -/

theorem readAt_some {mem : Mem} {a : Int} {v : Nat} (h : readAt mem a = some v) :
    0 ≤ a ∧ a < 18446744073709551616 ∧ mem a.toNat = some v := by
  unfold readAt at h
  split at h
  · rename_i hr; exact ⟨hr.1, hr.2, h⟩
  · cases h

/-- A readable word at the mathematical address `a + b` is what the code reads after its
checked signed addition. -/
theorem read_slot {mem : Mem} {a : Nat} {b : Int} {v : Nat} (ha : a < U64) (hb : InI64 b)
    (h : readAt mem ((a : Int) + b) = some v) : ∃ loc, caddSigned a b = some loc ∧ mem loc = some v :=
  have ⟨h0, h1, hm⟩ := readAt_some h
  ⟨_, caddSigned_toNat ha hb ⟨h0, h1⟩, hm⟩

/-- The slot `cfa + n` of a row whose CFA is `base + off`, addressed as the rule does: `base + 8·s`
with `8·s = off + n`. -/
theorem rule_slot {mem : Mem} {base v : Nat} {off n s : Int} (hb : base < U64)
    (hs : 8 * s = off + n ∧ -32768 ≤ s ∧ s < 32768)
    (h : readAt mem ((base : Int) + off + n) = some v) :
    InI64 (s * 8) ∧ ∃ loc, caddSigned base (s * 8) = some loc ∧ mem loc = some v :=
  have hi : InI64 (s * 8) := ⟨by omega, by omega⟩
  ⟨hi, read_slot hb hi (by rwa [show (base : Int) + off + n = base + s * 8 by omega] at h)⟩

/-! ## Inversion of the translation -/

/-- The four ways a row is compressed (x86-64). -/
inductive TransX64 (row : Row) : RuleX64 → Prop where
  | endOfStack : row.ra = .undefined → TransX64 row .endOfStack
  | offsetSp {off : Int} {k : Nat} : row.ra = .offset (-8) → row.cfa = .regOff .sp off →
      exactDivU16 off 8 = some k → regRuleToCfaOffset row.fp = .none → TransX64 row (.offsetSp k)
  | restoreBp {off b s : Int} {k : Nat} : row.ra = .offset (-8) → row.cfa = .regOff .sp off →
      exactDivU16 off 8 = some k → row.fp = .offset b → exactSumDiv8I16 off b = some s →
      TransX64 row (.offsetSpAndRestoreBp k s)
  | useFramePointer : row.ra = .offset (-8) → row.cfa = .regOff .fp 16 → row.fp = .offset (-16) →
      TransX64 row .useFramePointer

theorem translateX64_some {row : Row} {rule : RuleX64} (h : translateX64 row = some rule) :
    TransX64 row rule := by
  -- one `split` per `match`/`if` of the definition, in its order; a branch that gives `none`
  -- closes by `cases h`
  unfold translateX64 at h
  split at h
  · cases h; exact .endOfStack ‹_›
  · split at h
    · cases h
    · rename_i n hra hn
      cases Decidable.of_not_not hn
      split at h
      · split at h
        · cases h
        · split at h
          · cases h
          · cases h; exact .offsetSp hra ‹_› ‹_› ‹_›
          · split at h <;> cases h
            exact .restoreBp hra ‹_› ‹_› (regRuleToCfaOffset_some ‹_›) ‹_›
      · split at h
        · split at h <;> cases h
          rename_i hb hob
          obtain ⟨rfl, rfl⟩ := hob
          exact .useFramePointer hra ‹_› (regRuleToCfaOffset_some hb)
        · cases h
      · cases h
  · cases h

theorem regRuleToCfaOffset_none {r : RegRule} (h : regRuleToCfaOffset r = .none) :
    r = .undefined ∨ r = .sameValue := by
  cases r <;> first | exact .inl rfl | exact .inr rfl | cases h

/-- The six ways a row is compressed (aarch64). -/
inductive TransA64 (row : Row) : RuleA64 → Prop where
  | stackEnds {off : Int} {k : Nat} : row.cfa = .regOff .sp off → exactDivU16 off 16 = some k →
      row.ra = .undefined → regRuleToCfaOffset row.fp = .none →
      TransA64 row (.offsetSpIfFirstFrameOtherwiseStackEndsHere k)
  | offsetSp {off : Int} {k : Nat} : row.cfa = .regOff .sp off → exactDivU16 off 16 = some k →
      row.ra = .sameValue → regRuleToCfaOffset row.fp = .none → TransA64 row (.offsetSp k)
  | restoreLr {off l lo : Int} {k : Nat} : row.cfa = .regOff .sp off → exactDivU16 off 16 = some k →
      row.ra = .offset l → regRuleToCfaOffset row.fp = .none → exactSumDiv8I16 off l = some lo →
      TransA64 row (.offsetSpAndRestoreLr k lo)
  | restoreFpLr {off l lo f fo : Int} {k : Nat} : row.cfa = .regOff .sp off →
      exactDivU16 off 16 = some k → row.ra = .offset l → row.fp = .offset f →
      exactSumDiv8I16 off l = some lo → exactSumDiv8I16 off f = some fo →
      TransA64 row (.offsetSpAndRestoreFpAndLr k fo lo)
  | useFramePointer : row.cfa = .regOff .fp 16 → row.ra = .offset (-8) → row.fp = .offset (-16) →
      TransA64 row .useFramePointer
  | fpOffsets {off l lo f fo : Int} {k : Nat} : row.cfa = .regOff .fp off →
      exactDivU16 off 8 = some k → row.ra = .offset l → row.fp = .offset f →
      exactSumDiv8I16 off l = some lo → exactSumDiv8I16 off f = some fo →
      TransA64 row (.useFramepointerWithOffsets k fo lo)

theorem translateA64_some {row : Row} {rule : RuleA64} (h : translateA64 row = some rule) :
    TransA64 row rule := by
  -- as for x86-64; the overlapping patterns on the two `regRuleToCfaOffset`s are split by cases
  unfold translateA64 at h
  split at h
  · rename_i off hc
    split at h
    · cases h
    · rename_i k hk
      cases hra : regRuleToCfaOffset row.ra <;> cases hfp : regRuleToCfaOffset row.fp <;>
        simp only [hra, hfp, reduceCtorEq] at h
      · split at h <;> cases h
        · exact .stackEnds hc hk ‹_› hfp
        · exact .offsetSp hc hk ((regRuleToCfaOffset_none hra).resolve_left ‹_›) hfp
      · split at h <;> cases h
        exact .restoreLr hc hk (regRuleToCfaOffset_some hra) hfp ‹_›
      · split at h <;> cases h
        exact .restoreFpLr hc hk (regRuleToCfaOffset_some hra) (regRuleToCfaOffset_some hfp) ‹_› ‹_›
  · rename_i off hc
    split at h
    · rename_i l f hra hfp
      have hra := regRuleToCfaOffset_some hra
      have hfp := regRuleToCfaOffset_some hfp
      split at h
      · cases h
        rename_i hstd
        obtain ⟨rfl, rfl, rfl⟩ := hstd
        exact .useFramePointer hc hra hfp
      · split at h <;> cases h
        exact .fpOffsets hc ‹_› hra hfp ‹_› ‹_›
    · cases h
  · cases h

/-- The common tail on a readable, non-null return address slot below the CFA. -/
theorem finishX64_spec {regs : RegsX64} {sp bp' ra : Nat} {cfa : Int} {mem : Mem}
    (hr : readAt mem (cfa + -8) = some ra) (h0 : ra ≠ 0) (hadv : ¬(cfa = sp ∧ ra = regs.ip)) :
    finishX64 regs sp cfa.toNat bp' mem = .ret (.frame ra) (afterX64 regs ra cfa.toNat bp') := by
  obtain ⟨r0, _, rm⟩ := readAt_some hr
  exact finishX64_ok (by omega) (by rwa [show cfa.toNat - 8 = (cfa + -8).toNat by omega]) h0
    (fun ⟨a, b⟩ => hadv ⟨by omega, b⟩)

/-! ## The generic evaluator against the specification -/

theorem evalCfa_spec {get : DReg → Option Nat} {s f : Nat} {c : CfaRule} {cfa : Int}
    (hs : get .sp = some s) (hf : get .fp = some f) (hsl : s < U64) (hfl : f < U64) (hw : c.WF)
    (h : specCfa s f c = some cfa) (hcfa : InU64 cfa) : evalCfa get c = some cfa.toNat := by
  have wrap : ∀ {b : Nat} {off : Int}, (b : Int) + off = cfa → wrappingAddSigned b off = cfa.toNat :=
    fun e => by rw [wrappingAddSigned, e, Int.emod_eq_of_lt hcfa.1 hcfa.2]
  rcases c with ⟨(_|_|_|_), off⟩ | _ | ⟨(_|_|_|_), off⟩ <;> cases h
  · simp only [evalCfa, hs, caddSigned_toNat hsl hw hcfa]
  · simp only [evalCfa, hf, caddSigned_toNat hfl hw hcfa]
  · simp only [evalCfa, evalBreg, hs, wrap rfl]
  · simp only [evalCfa, evalBreg, hf, wrap rfl]

theorem evalRegRule_spec_some {get : DReg → Option Nat} {mem : Mem} {rule : RegRule} {cfa : Int}
    {cur v : Nat} (hc : InU64 cfa) (hw : rule.WF) (hne : rule ≠ .undefined)
    (hs : specReg mem cfa cur rule = some (some v)) :
    evalRegRule get mem rule cfa.toNat cur = some v := by
  cases rule <;> try cases hs
  · exact absurd rfl hne
  · rfl
  · obtain ⟨loc, hl, hm⟩ := read_slot (a := cfa.toNat) (by unfold U64; omega) hw
      (by rw [Int.toNat_of_nonneg hc.1]; exact Option.some.inj hs)
    simp only [evalRegRule, hl, hm]

theorem evalRegRule_spec {get : DReg → Option Nat} {mem : Mem} {rule : RegRule} {cfa : Int}
    {cur v : Nat} (hc : InU64 cfa) (hw : rule.WF)
    (hs : specReg mem cfa cur rule = some (some v)) :
    (evalRegRule get mem rule cfa.toNat cur).getD cur = v := by
  by_cases hne : rule = .undefined
  · subst hne; cases hs; rfl
  · rw [evalRegRule_spec_some hc hw hne hs]; rfl

end FH
