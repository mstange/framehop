import FH.RuleLemmas
import FH.Trunc
/-!
# Stack relocation of rule execution (C08)

The thread's stack is placed `d` bytes higher and the code it returns into is mapped somewhere
else: every stored word `v` becomes `σ v` (stack pointers move by `d`, code pointers by the
module's shift, data and nulls stay - all that is needed of `σ` is that it is injective and fixes
0). A rule step on the relocated state is the relocated outcome of the step on the original
state: same kind of result, frames mapped by `σ`, unreadable addresses moved by `d`, registers
relocated. Hypotheses: the stack pointer (and the frame pointer, where the rule uses it) keeps
`2^20` bytes of room to both ends of the 64-bit range before and after the move - the brief's "for
all deltas keeping every address in range" - and a frame pointer the rule follows is a stack
pointer (`σ bp = bp + d`).
-/
namespace FH

/-- Room to both ends of the address space: no rule offset (less than `2^20` bytes up,
`2^18` bytes down) can wrap, before or after moving by `d`. -/
def Room (d x : Nat) : Prop := 1048576 ≤ x ∧ x + d + 1048576 < U64

/-- The relocated stack: the word at `a + d` is the relocated word at `a`. -/
def MemReloc (σ : Nat → Nat) (d : Nat) (mem mem' : Mem) : Prop :=
  ∀ a, mem' (a + d) = (mem a).map σ

/-- A read on the relocated stack, for any way `F` of relocating outcomes that moves the address
of an unreadable slot by `d`. -/
theorem readSlot_reloc {R : Type} {σ : Nat → Nat} {d : Nat} {mem mem' : Mem}
    (hm : MemReloc σ d mem mem') (F : Out R → Out R) {regs regs' : R} (a : Nat)
    {k k' : Nat → Out R}
    (hF : F (.ret (.err (.couldNotReadStack a)) regs) =
      .ret (.err (.couldNotReadStack (a + d))) regs')
    (h : ∀ v, mem a = some v → k' (σ v) = F (k v)) :
    readSlot mem' regs' (a + d) k' = F (readSlot mem regs a k) := by
  unfold readSlot
  rw [hm a]
  cases hv : mem a with
  | none => exact hF.symm
  | some v => exact h v hv

def relocRes (σ : Nat → Nat) (d : Nat) : Res → Res
  | .frame ra => .frame (σ ra)
  | .done => .done
  | .err (.couldNotReadStack a) => .err (.couldNotReadStack (a + d))
  | .err e => .err e

/-- x86-64 registers after relocation: `rsp` moves with the stack, every other register and
the instruction pointer hold a word and move like one. -/
def relocR (σ : Nat → Nat) (d : Nat) (r : Nat → Nat) : Nat → Nat :=
  fun i => if i = RSP then r RSP + d else σ (r i)

def relocX64 (σ : Nat → Nat) (d : Nat) (g : RegsX64) : RegsX64 :=
  { ip := σ g.ip, r := relocR σ d g.r }

def relocOutX64 (σ : Nat → Nat) (d : Nat) : Out RegsX64 → Out RegsX64
  | .ret res g => .ret (relocRes σ d res) (relocX64 σ d g)
  | .panic s => .panic s

theorem relocR_setReg_other (σ : Nat → Nat) (d : Nat) (r : Nat → Nat) (i v : Nat) (hi : i ≠ RSP) :
    relocR σ d (setReg r i v) = setReg (relocR σ d r) i (σ v) := by
  funext j
  unfold relocR setReg
  by_cases hj : j = RSP
  · subst hj
    have : RSP ≠ i := fun e => hi e.symm
    simp [this]
  · by_cases hji : j = i
    · simp [hji, hi]
    · simp [hj, hji]

theorem relocR_setReg_sp (σ : Nat → Nat) (d : Nat) (r : Nat → Nat) (v : Nat) :
    relocR σ d (setReg r RSP v) = setReg (relocR σ d r) RSP (v + d) := by
  funext j
  unfold relocR setReg
  by_cases hj : j = RSP <;> simp [hj]

@[simp] theorem relocX64_sp (σ : Nat → Nat) (d : Nat) (g : RegsX64) :
    (relocX64 σ d g).sp = g.sp + d := by
  simp [relocX64, RegsX64.sp, relocR]

@[simp] theorem relocX64_bp (σ : Nat → Nat) (d : Nat) (g : RegsX64) :
    (relocX64 σ d g).bp = σ g.bp := by
  simp [relocX64, RegsX64.bp, relocR, RBP, RSP]

theorem cadd_reloc {x off r d : Nat} (h : cadd x off = some r) (hr : r + d < U64) :
    cadd (x + d) off = some (r + d) := by
  have ⟨e, _⟩ := cadd_some h
  subst e
  unfold cadd
  have : x + d + off < U64 := by omega
  simp only [this, if_true]
  congr 1; omega

/-- `finishX64` on the relocated state. -/
theorem finishX64_reloc (σ : Nat → Nat) (d : Nat) (hσ : Function.Injective σ) (h0 : σ 0 = 0)
    {mem mem' : Mem} (hm : MemReloc σ d mem mem') (regs1 : RegsX64) (sp newSp newBp : Nat)
    (h8 : 8 ≤ newSp) :
    finishX64 (relocX64 σ d regs1) (sp + d) (newSp + d) (σ newBp) mem' =
      relocOutX64 σ d (finishX64 regs1 sp newSp newBp mem) := by
  unfold finishX64
  have a1 : ¬ newSp + d < 8 := by omega
  have a2 : ¬ newSp < 8 := by omega
  have a3 : newSp + d - 8 = (newSp - 8) + d := by omega
  simp only [a1, a2, if_false, a3, hm (newSp - 8)]
  cases mem (newSp - 8) with
  | none => rfl
  | some ra =>
    simp only [Option.map_some]
    have e0 : (σ ra = 0) ↔ (ra = 0) := ⟨fun h => hσ (h.trans h0.symm), fun h => by rw [h, h0]⟩
    have e1 : (newSp + d = sp + d ∧ σ ra = (relocX64 σ d regs1).ip) ↔ (newSp = sp ∧ ra = regs1.ip) := by
      simp only [relocX64]
      constructor
      · intro ⟨a, b⟩; exact ⟨by omega, hσ b⟩
      · intro ⟨a, b⟩; exact ⟨by omega, by rw [b]⟩
    by_cases hra : ra = 0
    · rw [if_pos (e0.mpr hra), if_pos hra]; rfl
    · rw [if_neg (fun h => hra (e0.mp h)), if_neg hra]
      by_cases hdna : newSp = sp ∧ ra = regs1.ip
      · rw [if_pos (e1.mpr hdna), if_pos hdna]; rfl
      · rw [if_neg (fun h => hdna (e1.mp h)), if_neg hdna]
        simp only [relocOutX64, relocRes, relocX64]
        congr 2
        rw [relocR_setReg_other σ d _ RBP newBp (by decide), relocR_setReg_sp]


theorem caddSigned_room {x d : Nat} {b : Int} (hx : Room d x) (hb : -262144 ≤ b ∧ b < 262144) :
    ∃ loc, caddSigned x b = some loc ∧ caddSigned (x + d) b = some (loc + d) ∧
      (loc : Int) = (x : Int) + b := by
  unfold Room U64 at hx
  refine ⟨((x : Int) + b).toNat, ?_, ?_, by omega⟩
  · rw [caddSigned_eq_spec x b (by unfold U64; omega) (by omega) (by omega)]
    unfold caddSignedSpec
    have : 0 ≤ (x : Int) + b ∧ (x : Int) + b < 18446744073709551616 := by omega
    simp only [this, and_self, if_true]
  · rw [caddSigned_eq_spec (x + d) b (by unfold U64; omega) (by omega) (by omega)]
    unfold caddSignedSpec
    have : 0 ≤ ((x + d : Nat) : Int) + b ∧ ((x + d : Nat) : Int) + b < 18446744073709551616 := by omega
    simp only [this, and_self, if_true]
    congr 1
    omega

theorem cadd_room {x d off : Nat} (hx : Room d x) (ho : off < 1048576) :
    cadd x off = some (x + off) ∧ cadd (x + d) off = some (x + off + d) := by
  unfold Room U64 at hx
  unfold cadd U64
  have h1 : x + off < 18446744073709551616 := by omega
  have h2 : x + d + off < 18446744073709551616 := by omega
  simp only [h1, h2, if_true, true_and]
  congr 1; omega

/-! How a map `sh` of plans (moving their addresses by `d`) passes through the arithmetic of a
step: the multiplications do not see `d`, the checked adds succeed on both sides given `Room`. -/

section shift
variable {P Q : Type} (sh : P → Q) {d : Nat}

theorem mulU_shift {d0 : P} {d1 : Q} {a b : Nat} {f : Nat → P} {g : Nat → Q} (hd : d1 = sh d0)
    (h : g (a * b) = sh (f (a * b))) : mulU d1 a b g = sh (mulU d0 a b f) := by
  unfold mulU; split
  · exact h
  · exact hd

theorem mulI_shift {d0 : P} {d1 : Q} {a b : Int} {f : Int → P} {g : Int → Q} (hd : d1 = sh d0)
    (h : g (a * b) = sh (f (a * b))) : mulI d1 a b g = sh (mulI d0 a b f) := by
  unfold mulI; split
  · exact h
  · exact hd

theorem cadd_shift {d0 : P} {d1 : Q} {x off : Nat} {f : Nat → P} {g : Nat → Q} (hx : Room d x)
    (ho : off < 1048576) (h : g (x + off + d) = sh (f (x + off))) :
    orElse (cadd (x + d) off) d1 g = sh (orElse (cadd x off) d0 f) := by
  obtain ⟨c1, c2⟩ := cadd_room hx ho
  rw [c1, c2]; exact h

theorem caddSigned_shift {d0 : P} {d1 : Q} {x : Nat} {b : Int} {f : Nat → P} {g : Nat → Q}
    (hx : Room d x) (hb : -262144 ≤ b ∧ b < 262144)
    (h : ∀ y, g (y + d) = sh (f y)) :
    orElse (caddSigned (x + d) b) d1 g = sh (orElse (caddSigned x b) d0 f) := by
  obtain ⟨loc, l1, l2, _⟩ := caddSigned_room hx hb
  rw [l1, l2]; exact h loc

end shift

/-- Relocating the outcome of the pop loop. -/
def relocPop (σ : Nat → Nat) (d : Nat) : PopOut → PopOut
  | .ok sp r => .ok (sp + d) (relocR σ d r)
  | .fail (.couldNotReadStack a) r => .fail (.couldNotReadStack (a + d)) (relocR σ d r)
  | .fail e r => .fail e (relocR σ d r)

theorem popLoop_reloc (σ : Nat → Nat) (d : Nat) {mem mem' : Mem} (hm : MemReloc σ d mem mem') :
    ∀ (l : List Nat) (sp : Nat) (r : Nat → Nat), (∀ reg ∈ l, reg ≠ RSP) →
      sp + 8 * l.length + d < U64 →
      popLoop mem' l (sp + d) (relocR σ d r) = relocPop σ d (popLoop mem l sp r)
  | [], sp, r, _, _ => rfl
  | reg :: rest, sp, r, hreg, hfit => by
    simp only [popLoop, hm sp]
    cases mem sp with
    | none => rfl
    | some v =>
      simp only [Option.map_some]
      simp only [List.length_cons] at hfit
      have c1 : cadd sp 8 = some (sp + 8) := by unfold cadd; simp only [show sp + 8 < U64 by omega, if_true]
      have c2 : cadd (sp + d) 8 = some (sp + 8 + d) := by
        unfold cadd; simp only [show sp + d + 8 < U64 by omega, if_true]; congr 1; omega
      rw [c1, c2]
      simp only []
      rw [← relocR_setReg_other σ d r reg v (hreg reg (by simp))]
      exact popLoop_reloc σ d hm rest (sp + 8) _ (fun x hx => hreg x (by simp [hx])) (by omega)

/-! ## The plan of the relocated registers, and running it on the relocated stack -/

def PlanX64.shift (d : Nat) : PlanX64 → PlanX64
  | .stop k => .stop k
  | .loadBp a k => .loadBp (a + d) (k.shift d)
  | .pops l a k => .pops l (a + d) (k.shift d)
  | .fin n => .fin (n + d)
  | .finTol a n => .finTol (a + d) (n + d)

theorem fpPlanX64_reloc (σ : Nat → Nat) (d : Nat) (h0 : σ 0 = 0) (regs : RegsX64)
    (hbp : regs.bp ≠ 0 → σ regs.bp = regs.bp + d ∧ Room d regs.bp) :
    fpPlanX64 (relocX64 σ d regs) = (fpPlanX64 regs).shift d := by
  unfold fpPlanX64
  simp only [relocX64_sp, relocX64_bp]
  by_cases hb : regs.bp = 0
  · rw [if_pos (by rw [hb, h0]), if_pos hb]; rfl
  · obtain ⟨e, room⟩ := hbp hb
    have hne : σ regs.bp ≠ 0 := by rw [e]; unfold Room at room; omega
    rw [if_neg hne, if_neg hb, e]
    refine cadd_shift _ room (by omega) ?_
    by_cases hle : regs.bp + 16 ≤ regs.sp
    · rw [if_pos (by omega), if_pos hle]; rfl
    · rw [if_neg (by omega), if_neg hle]; rfl

/-- **The plan of the relocated registers is the shifted plan.** -/
theorem planX64_reloc (σ : Nat → Nat) {d : Nat} (h0 : σ 0 = 0) {rule : RuleX64} (hr : rule.WF)
    (first : Bool) (regs : RegsX64) (hsp : Room d regs.sp)
    (hbp : usesBpX64 rule first = true → regs.bp ≠ 0 → σ regs.bp = regs.bp + d ∧ Room d regs.bp) :
    planX64 rule first (relocX64 σ d regs) = (planX64 rule first regs).shift d := by
  cases rule with
  | endOfStack => rfl
  | useFramePointer => exact fpPlanX64_reloc σ d h0 regs (hbp rfl)
  | justReturn =>
    simp only [planX64, relocX64_sp]
    exact cadd_shift _ hsp (by omega) rfl
  | justReturnIfFirstFrameOtherwiseFp =>
    cases first with
    | true =>
      simp only [planX64, relocX64_sp, if_true]
      exact cadd_shift _ hsp (by omega) rfl
    | false => exact fpPlanX64_reloc σ d h0 regs (hbp rfl)
  | offsetSp k =>
    simp only [RuleX64.WF, U16] at hr
    simp only [planX64, relocX64_sp]
    exact mulU_shift _ rfl (cadd_shift _ hsp (by omega) rfl)
  | offsetSpAndRestoreBp k b =>
    simp only [RuleX64.WF, U16] at hr
    simp only [planX64, relocX64_sp]
    refine mulU_shift _ rfl (cadd_shift _ hsp (by omega) ?_)
    refine mulI_shift _ rfl (caddSigned_shift _ hsp (by omega) fun loc => ?_)
    by_cases h : first = true ∧ loc < regs.sp
    · rw [if_pos ⟨h.1, by omega⟩, if_pos h]; rfl
    · rw [if_neg (fun h' => h ⟨h'.1, by omega⟩), if_neg h]; rfl
  | offsetSpAndPopRegisters k c e =>
    simp only [RuleX64.WF, U16] at hr
    simp only [planX64, relocX64_sp]
    refine mulU_shift _ rfl (cadd_shift _ hsp (by omega) ?_)
    -- the add after the pops fits on both sides: at most 255 registers
    have hl := decodeRegs_length_le c e
    unfold Room at hsp
    have c1 : cadd (regs.sp + k * 8 + d + 8 * (decodeRegs c e).length) 8 =
        some (regs.sp + k * 8 + 8 * (decodeRegs c e).length + 8 + d) := by
      unfold cadd
      rw [if_pos (by omega)]
      congr 1; omega
    have c2 : cadd (regs.sp + k * 8 + 8 * (decodeRegs c e).length) 8 =
        some (regs.sp + k * 8 + 8 * (decodeRegs c e).length + 8) := by
      unfold cadd
      rw [if_pos (by omega)]
    simp only [PlanX64.shift, c1, c2, orElse]

/-- What running a shifted plan needs to know of the nodes: the return address slot exists, and
the pops neither touch `rsp` nor run out of the address space after the move. -/
def RelocFit (d : Nat) : PlanX64 → Prop
  | .fin n => 8 ≤ n
  | .pops l a _ => (∀ reg ∈ l, reg ≠ RSP) ∧ a + 8 * l.length + d < U64
  | _ => True

/-- **Running the shifted plan on the relocated stack gives the relocated outcome.** -/
theorem PlanX64.run_shift {σ : Nat → Nat} {d : Nat} (hσ : Function.Injective σ) (h0 : σ 0 = 0)
    {mem mem' : Mem} (hm : MemReloc σ d mem mem') {regs : RegsX64} :
    ∀ (p : PlanX64) (r : Nat → Nat) (bp : Nat), p.All (RelocFit d) →
      (p.shift d).run (relocX64 σ d regs) mem' (relocR σ d r) (σ bp) =
        relocOutX64 σ d (p.run regs mem r bp)
  | .stop k, _, _, _ => by cases k <;> rfl
  | .fin n, r, bp, hp => by
    simp only [PlanX64.shift, PlanX64.run, relocX64_sp]
    exact finishX64_reloc σ d hσ h0 hm { regs with r := r } regs.sp n bp hp
  | .finTol a n, r, bp, hp => by
    have e : (mem' (a + d)).getD (σ bp) = σ ((mem a).getD bp) := by
      rw [hm a]; cases mem a <;> rfl
    simp only [PlanX64.shift, PlanX64.run, relocX64_sp, e]
    exact finishX64_reloc σ d hσ h0 hm { regs with r := r } regs.sp n _ hp.2
  | .loadBp a k, r, _, hp =>
    readSlot_reloc hm (relocOutX64 σ d) a rfl fun v _ => k.run_shift hσ h0 hm r v hp.2
  | .pops l a k, r, _, hp => by
    simp only [PlanX64.shift, PlanX64.run]
    rw [popLoop_reloc σ d hm l a r hp.1.1 hp.1.2]
    cases popLoop mem l a r with
    | fail e r' => cases e <;> rfl
    | ok sp2 r' =>
      have hbp : relocR σ d r' RBP = σ (r' RBP) := by simp [relocR, RBP, RSP]
      simp only [relocPop, hbp]
      exact k.run_shift hσ h0 hm r' _ hp.2

/-- Mapping an outcome: result by `g`, state by `f`. -/
def mapOut {St : Type} (f : St → St) (g : Res → Res) : Out St → Out St
  | .ret r s => .ret (g r) (f s)
  | .panic p => .panic p

/-- A predicate holds at every state the walk on `mem` visits. -/
def AlongWalk {St : Type} (step : Mem → St → Out St) (mem : Mem) (P : St → Prop) : Nat → St → Prop
  | 0, _ => True
  | n + 1, s => P s ∧
    match step mem s with
    | .ret (.frame _) s' => AlongWalk step mem P n s'
    | _ => True

/-- **Simulation of walks.** If, wherever `P` holds, a step on `(mem', f s)` is the image of the
step on `(mem, s)`, and `g` maps frames to frames and endings to endings, then the whole walk on
`(mem', f s)` is the image of the walk on `(mem, s)` (any length). -/
theorem walk_sim {St : Type} (step : Mem → St → Out St) (mem mem' : Mem) (f : St → St)
    (g : Res → Res) (hgf : ∀ ra, ∃ ra', g (.frame ra) = .frame ra')
    (hgn : ∀ r, ¬ IsFrame r → ¬ IsFrame (g r)) (P : St → Prop)
    (hstep : ∀ s, P s → step mem' (f s) = mapOut f g (step mem s)) :
    ∀ n s, AlongWalk step mem P n s →
      walkWith step mem' n (f s) = (walkWith step mem n s).map g := by
  intro n
  induction n with
  | zero => intro s _; rfl
  | succ n ih =>
    intro s h
    simp only [AlongWalk] at h
    simp only [walkWith, hstep s h.1]
    cases hs : step mem s with
    | panic site => rfl
    | ret r s1 =>
      cases r with
      | frame ra =>
        obtain ⟨ra', hra⟩ := hgf ra
        have h2 := h.2
        rw [hs] at h2
        simp only [mapOut, hra, List.map_cons]
        rw [ih s1 h2]
      | done =>
        have := hgn .done (by simp [IsFrame])
        simp only [mapOut]
        cases hg : g .done with
        | frame x => rw [hg] at this; exact absurd trivial this
        | done => simp [hg]
        | err e => simp [hg]
      | err e =>
        have := hgn (.err e) (by simp [IsFrame])
        simp only [mapOut]
        cases hg : g (.err e) with
        | frame x => rw [hg] at this; exact absurd trivial this
        | done => simp [hg]
        | err e' => simp [hg]

theorem relocRes_frame (σ : Nat → Nat) (d ra : Nat) : ∃ ra', relocRes σ d (.frame ra) = .frame ra' :=
  ⟨σ ra, rfl⟩

theorem relocRes_not_frame (σ : Nat → Nat) (d : Nat) (r : Res) (h : ¬ IsFrame r) :
    ¬ IsFrame (relocRes σ d r) := by
  cases r with
  | frame ra => exact absurd trivial h
  | done => simp [relocRes, IsFrame]
  | err e => cases e <;> simp [relocRes, IsFrame]

end FH
