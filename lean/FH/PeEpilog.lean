import FH.PeBody
/-!
# PE: unwinding from inside an epilog (C03)

The epilog `add rsp, n` / `lea rsp, [fr + x]`; `pop r…`; `ret` undoes the prolog. framehop
simulates the instructions that remain at the pc (`interpEpilog`); its run of pops performs the
documented pop procedure, as the operation interpreter's does. The statements about whole epilogs
are in `FH/Props/C03Epilog.lean`.
-/
namespace FH

/-- The remaining pops of an epilog, then `ret` (cf. `interpOps_pops`). -/
theorem interpEpilog_pops (fr : Option Nat) (mem : Mem) : ∀ (pes : List Nat) (sp : Nat)
    (ρ : Nat → Nat) (ra : Nat) (r' : Nat → Nat), sp + 8 * pes.length + 8 < U64 →
    popSpecLoop mem (pes.map peReg) sp ρ = some (ra, r') →
    interpEpilog fr mem (pes.map .pop) (setReg ρ RSP sp) = .ok ra r'
  | [], sp, ρ, ra, r', hlt, h => by
    simp only [List.map_nil, popSpecLoop] at h
    split at h <;> cases h
    rename_i hv
    simp only [List.map_nil, interpEpilog, popReturnAddress, setReg_same, hv,
      cadd_eq_some (show sp + 8 < U64 by simpa using hlt), setReg_overwrite]
  | pe :: rest, sp, ρ, ra, r', hlt, h => by
    simp only [List.map_cons, popSpecLoop] at h
    split at h
    · cases h
    · rename_i v hv
      simp only [List.length_cons] at hlt
      simp only [List.map_cons, interpEpilog, setReg_same, hv, cadd_eq_some (show sp + 8 < U64 by omega)]
      rw [setReg_shadow]
      exact interpEpilog_pops fr mem rest _ _ ra r' (by omega) h

end FH
