import FH.Pe
/-!
# `register_ordering`: decode ∘ encode = id

For every register sequence that `encode` accepts, `decode` of its result is that sequence -
proved for all sequences (no enumeration), from the mixed-radix structure of the encoding.
-/
namespace FH

theorem swapAt_length (l : List Nat) (i j : Nat) : (swapAt l i j).length = l.length := by
  unfold swapAt; split <;> simp

theorem swapAt_take (l : List Nat) (i j : Nat) (hij : i ≤ j) : (swapAt l i j).take i = l.take i := by
  unfold swapAt
  split
  · rw [List.take_set_of_le (by omega), List.take_set_of_le (by omega)]
  · rfl

theorem swapAt_get_i (l : List Nat) (i j : Nat) (hi : i < l.length) (hj : j < l.length) (hij : i ≤ j) :
    (swapAt l i j)[i]? = l[j]? := by
  unfold swapAt
  rw [dif_pos ⟨hi, hj⟩]
  by_cases h : i = j
  · subst h; simp
  · rw [List.getElem?_set_ne (by omega)]
    simp [hi]

/-- Horner form of the encoding loop. -/
theorem encodeLoop_horner : ∀ (regs : List Nat) (i : Nat) (order : List Nat) (r scale : Nat),
    encodeLoop regs i order r scale = (encodeLoop regs i order 0 1).map (fun x => r + scale * x)
  | [], i, order, r, scale => by simp [encodeLoop]
  | reg :: rest, i, order, r, scale => by
    simp only [encodeLoop]
    cases (order.drop i).findIdx? (· == reg) with
    | none => simp
    | some index =>
      simp only []
      rw [encodeLoop_horner rest (i + 1) _ (r + index * scale) (scale * (8 - i)),
        encodeLoop_horner rest (i + 1) _ (0 + index * 1) (1 * (8 - i))]
      cases encodeLoop rest (i + 1) _ 0 1 with
      | none => simp
      | some x =>
        simp only [Option.map_some, Option.some.injEq]
        rw [Nat.mul_add, ← Nat.mul_assoc, Nat.add_assoc]
        simp [Nat.mul_comm]

theorem decodeLoop_zero (n : Nat) (regs : List Nat) : decodeLoop n 0 regs = regs := by
  cases n <;> simp [decodeLoop]

/-- The list after the encoder has moved the register found at distance `index` to position `i`. -/
abbrev moved (order : List Nat) (i index : Nat) : List Nat :=
  if index ≠ 0 then swapAt order i (i + index) else order

theorem moved_length (order : List Nat) (i index : Nat) : (moved order i index).length = order.length := by
  unfold moved; split
  · exact swapAt_length ..
  · rfl

theorem moved_take {order : List Nat} {i index reg : Nat} (hi : i + index < order.length)
    (hreg : order[i + index]? = some reg) : (moved order i index).take (i + 1) = order.take i ++ [reg] := by
  unfold moved
  rw [List.take_add_one]
  split
  · rw [swapAt_take _ _ _ (by omega), swapAt_get_i _ _ _ (by omega) hi (by omega), hreg]; rfl
  · obtain rfl : index = 0 := by omega
    rw [show order[i]? = some reg from hreg]; rfl

/-- One encoding step, with `n` positions still open: the digit is the distance `index < n` at which
the register is found, and the rest of the sequence is encoded in the list with that register moved
into place. -/
theorem encodeLoop_cons {reg : Nat} {rest : List Nat} {i n : Nat} {order : List Nat} {e : Nat}
    (hn : i + n = 8) (hlen : order.length = 8) (h : encodeLoop (reg :: rest) i order 0 1 = some e) :
    ∃ index x, index < n ∧ order[i + index]? = some reg ∧
      encodeLoop rest (i + 1) (moved order i index) 0 1 = some x ∧ e = index + n * x := by
  obtain rfl : n = 8 - i := by omega
  simp only [encodeLoop] at h
  cases hf : (order.drop i).findIdx? (· == reg) with
  | none => simp [hf] at h
  | some index =>
    simp only [hf] at h
    obtain ⟨hidx, hreg, _⟩ := List.findIdx?_eq_some_iff_getElem.mp hf
    rw [encodeLoop_horner] at h
    change (encodeLoop rest (i + 1) (moved order i index) 0 1).map _ = some e at h
    cases hx : encodeLoop rest (i + 1) (moved order i index) 0 1 with
    | none => rw [hx] at h; cases h
    | some x =>
      rw [hx] at h
      refine ⟨index, x, by simpa [hlen] using hidx, ?_, hx, ?_⟩
      · rw [← List.getElem?_drop, List.getElem?_eq_getElem hidx]; simpa using hreg
      · simpa [eq_comm] using h

/-- One decoding step undoes one encoding digit. -/
theorem decodeLoop_step (n index x : Nat) (regs : List Nat) (hidx : index < n + 1) :
    decodeLoop (n + 1) (index + (n + 1) * x) regs = decodeLoop n x (moved regs (8 - (n + 1)) index) := by
  have hmod : (index + (n + 1) * x) % (n + 1) = index := by
    rw [Nat.add_mul_mod_self_left]; exact Nat.mod_eq_of_lt hidx
  have hdiv : (index + (n + 1) * x) / (n + 1) = x := by
    rw [Nat.add_mul_div_left _ _ (by omega : 0 < n + 1), Nat.div_eq_of_lt hidx]; omega
  rw [decodeLoop]
  split
  · -- the encoding is exhausted: all remaining digits are 0
    rename_i hr
    rw [hr] at hmod hdiv
    obtain rfl : index = 0 := by simpa using hmod.symm
    obtain rfl : x = 0 := by simpa using hdiv.symm
    simp [moved, decodeLoop_zero]
  · split
    · -- the last position has only one candidate
      obtain rfl : n = 0 := by omega
      obtain rfl : index = 0 := by omega
      simp [moved, decodeLoop]
    · simp only [hmod, hdiv, moved]

/-- **Decoding inverts encoding**, by induction over the register sequence: with `n` positions
still open, the decoder's list after undoing the digits of `regs` starts with what was already fixed
followed by `regs`. -/
theorem encodeLoop_roundtrip : ∀ (regs : List Nat) (i n : Nat) (order : List Nat) (e : Nat),
    i + n = 8 → order.length = 8 → regs.length ≤ n → encodeLoop regs i order 0 1 = some e →
    (decodeLoop n e order).take (i + regs.length) = order.take i ++ regs
  | [], i, n, order, e, _, _, _, h => by
    cases h
    simp [decodeLoop_zero]
  | reg :: rest, i, n + 1, order, e, hn, hlen, hi, h => by
    obtain ⟨index, x, hidx, hreg, hx, rfl⟩ := encodeLoop_cons hn hlen h
    have ih := encodeLoop_roundtrip rest (i + 1) n _ x (by omega) ((moved_length ..).trans hlen)
      (Nat.le_of_succ_le_succ hi) hx
    rw [decodeLoop_step n index x order hidx, show 8 - (n + 1) = i by omega, List.length_cons,
      ← Nat.add_assoc, Nat.add_right_comm, ih, moved_take (by omega) hreg, List.append_assoc]
    rfl

/-- `n!` -/
def fac : Nat → Nat
  | 0 => 1
  | n + 1 => (n + 1) * fac n

theorem fac_pos : ∀ n, 0 < fac n
  | 0 => by simp [fac]
  | n + 1 => by simp only [fac]; exact Nat.mul_pos (by omega) (fac_pos n)

/-- With `n` positions still open the encoding is below `n!`. -/
theorem encodeLoop_bound : ∀ (regs : List Nat) (i n : Nat) (order : List Nat) (e : Nat),
    i + n = 8 → order.length = 8 → regs.length ≤ n → encodeLoop regs i order 0 1 = some e →
    e < fac n
  | [], i, n, order, e, _, _, _, h => by
    cases h
    exact fac_pos _
  | reg :: rest, i, n + 1, order, e, hn, hlen, hi, h => by
    obtain ⟨index, x, hidx, _, hx, rfl⟩ := encodeLoop_cons hn hlen h
    have ih := encodeLoop_bound rest (i + 1) n _ x (by omega) ((moved_length ..).trans hlen)
      (Nat.le_of_succ_le_succ hi) hx
    -- index + (n+1)·x < (n+1)·(x+1) ≤ (n+1)·n!
    have h1 : index + (n + 1) * x < (n + 1) * (x + 1) := by rw [Nat.mul_add, Nat.mul_one]; omega
    exact Nat.lt_of_lt_of_le h1 (Nat.mul_le_mul_left _ ih)

theorem encodeRegs_some {regs : List Nat} {c e : Nat} (h : encodeRegs regs = some (c, e)) :
    regs.length ≤ 8 ∧ c = regs.length ∧ encodeLoop regs 0 encodeRegisters 0 1 = some e := by
  unfold encodeRegs at h
  split at h
  · cases h
  · cases he : encodeLoop regs 0 encodeRegisters 0 1 with
    | none => simp [he] at h
    | some r =>
      simp only [he, Option.map_some, Option.some.injEq, Prod.mk.injEq] at h
      exact ⟨by omega, h.1.symm, congrArg some h.2⟩

/-- Every accepted encoding fits the rule's `u16` field (it is below `8! = 40320`). -/
theorem encodeRegs_fits_u16 (regs : List Nat) (c e : Nat) (h : encodeRegs regs = some (c, e)) :
    e < 40320 ∧ c ≤ 8 := by
  obtain ⟨hl, rfl, he⟩ := encodeRegs_some h
  exact ⟨encodeLoop_bound regs 0 8 encodeRegisters e rfl (by decide) hl he, hl⟩

end FH
