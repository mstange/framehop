import FH.Basic
import FH.Regs
import FH.RuleX64
import FH.RuleA64
import FH.ReadSlot
import FH.PlanA64
import FH.PlanX64
import FH.RuleLemmas
import FH.RuleSteps
import FH.Driver.Parse
import FH.Driver.Rules
import FH.PtrAuth
import FH.Walk
import FH.Props.C09
import FH.Props.C10
import FH.Props.C10Path
import FH.Props.C10Walk
import FH.Props.C11
import FH.Props.C11Path
import FH.Props.C11Generic
import FH.Props.C11Cache
import FH.Props.C16
import FH.Props.C16Path
import FH.Dwarf
import FH.Modules
import FH.World
import FH.MissPath
import FH.Driver.World
import FH.Hist
import FH.Props.C06
import FH.Props.C18
import FH.Props.C20
import FH.ModuleLemmas
import FH.Props.C07
import FH.Props.C07Unwind
import FH.Props.C07Nested
import FH.Props.C13
import FH.Props.C17
import FH.Props.C17Repoll
import FH.DwarfSpec
import FH.Props.C05
import FH.FdeLemmas
import FH.Props.C12
import FH.Props.C04
import FH.Props.C04Formats
import FH.Props.C04FormatsA64
import FH.Props.C04Nested
import FH.Props.C01
import FH.Props.C08
import FH.Trunc
import FH.Pe
import FH.PeLemmas
import FH.Props.C03
import FH.Props.C03Epilog
import FH.AnaX64
import FH.AnaA64
import FH.Cui
import FH.AnaLemmas
import FH.Props.C02
import FH.Props.C02A64
import FH.Props.C02Walk
import FH.Props.C14
import FH.Props.C15
import FH.Select
import FH.Props.C19
import FH.NoPanic
import FH.RegOrder
